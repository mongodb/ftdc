import FtdcVerif.Lemmas.ConcColl
import FtdcVerif.Props.C05
/-!
# C10 — thread-safe collector wrappers lose nothing under concurrent producers

`ConcColl` has the synchronized collector, with any number of producers, and the buffered collector, with its
drain goroutine, as transition systems; the theorems hold for any samples, any capacity and any schedule.
"No data races" is not a theorem (Go memory model): the race-detector build of the harness is supporting evidence.
-/
namespace Ftdc.Props.C10
open Ftdc.ConcColl

/-- Exactly once, in each producer's order: for every schedule the wrapped collector has
received from producer `g` exactly the samples whose `Add` returned, in order -/
theorem sync_log_is_acknowledged (orig : Nat → List Nat) (sched : List Nat) (g : Nat) :
    logOf (srun { todo := orig } sched) g = (srun { todo := orig } sched).acked g :=
  (srun_inv orig sched _ (sinit_inv orig) g).log_acked

/-- nothing is invented or lost on the way: acknowledged ++ in flight ++ still to do is the
producer's original sequence -/
theorem sync_conservation (orig : Nat → List Nat) (sched : List Nat) (g : Nat) :
    orig g = (srun { todo := orig } sched).acked g ++
      (match (srun { todo := orig } sched).pc g with | .idle => [] | .waiting x => [x] | .inCS x => [x]) ++
      (srun { todo := orig } sched).todo g :=
  (srun_inv orig sched _ (sinit_inv orig) g).conserve

/-- when a producer has finished, the log holds its whole sequence, once, in order -/
theorem sync_finished_producer (orig : Nat → List Nat) (sched : List Nat) (g : Nat)
    (hidle : (srun { todo := orig } sched).pc g = .idle) (hdone : (srun { todo := orig } sched).todo g = []) :
    logOf (srun { todo := orig } sched) g = orig g := by
  have h1 := sync_log_is_acknowledged orig sched g
  have h2 := sync_conservation orig sched g
  rw [hidle, hdone] at h2
  simp at h2
  rw [h1, h2]

/-- at most one producer is inside the wrapped collector -/
theorem sync_mutual_exclusion (orig : Nat → List Nat) (sched : List Nat) (g k : Nat) (x y : Nat)
    (hg : (srun { todo := orig } sched).pc g = .inCS x) (hk : (srun { todo := orig } sched).pc k = .inCS y) :
    g = k := by
  have inv := srun_inv orig sched _ (sinit_inv orig)
  have a := (inv g).cs_owner x hg
  have b := (inv k).cs_owner y hk
  rw [a] at b; injection b

/-- buffered: nothing accepted is ever dropped -/
theorem buffered_conservation (cap : Nat) (sched : List BAct) :
    (brun { cap := cap } sched).accepted = (brun { cap := cap } sched).log ++ (brun { cap := cap } sched).queue :=
  (brun_inv sched _ (binit_inv cap)).conserve

/-- buffered: what was accepted before cancellation is delivered by the time the drain
goroutine stops, without any further call -/
theorem buffered_delivers_before_exit (cap : Nat) (sched : List BAct)
    (h : (brun { cap := cap } sched).dpc = .exited) :
    (brun { cap := cap } sched).acceptedAtCancel ≤ (brun { cap := cap } sched).log.length ∧
    (brun { cap := cap } sched).log <+: (brun { cap := cap } sched).accepted := by
  have inv := brun_inv sched _ (binit_inv cap)
  exact ⟨inv.delivered h, by rw [inv.conserve]; exact List.prefix_append _ _⟩

/-- the drain goroutine is never blocked while something is queued and it has not stopped -/
theorem buffered_drain_enabled (s : BSt) (hq : s.queue ≠ []) (hd : s.dpc ≠ .exited) :
    (bstep s .drain).isSome := by
  obtain ⟨x, rest, hq⟩ := List.exists_cons_of_ne_nil hq
  cases hdpc : s.dpc with
  | exited => exact absurd hdpc hd
  | _ => simp [bstep, hdpc, hq]

theorem buffered_stops_only_after_cancel (cap : Nat) (sched : List BAct)
    (h : (brun { cap := cap } sched).dpc = .exited) : (brun { cap := cap } sched).cancelled = true :=
  (brun_inv sched _ (binit_inv cap)).exited_cancelled h

/-- the shared catcher retains every error added concurrently: flags only ever go from false to true.  The two producer
goroutines of the reader pipeline are the instance, and the statement is `C05.errors_retained`, proved there. -/
theorem catcher_retains (items : List Ftdc.Pipeline.Item) (sched : List Ftdc.Pipeline.Pid)
    (p : Ftdc.Pipeline.Pid) (s' : Ftdc.Pipeline.St)
    (hs : Ftdc.Pipeline.step (Ftdc.Pipeline.run (Ftdc.Pipeline.init true items) sched) p = some s') :
    ((Ftdc.Pipeline.run (Ftdc.Pipeline.init true items) sched).dErrIn = true → s'.dErrIn = true) ∧
    ((Ftdc.Pipeline.run (Ftdc.Pipeline.init true items) sched).cErrIn = true → s'.cErrIn = true) :=
  C05.errors_retained items sched p s' hs

/-! non-vacuity: two producers interleaved -/
example : (srun { todo := fun g => if g = 0 then [1, 2] else if g = 1 then [7] else [] }
    [0, 1, 0, 0, 1, 1, 0, 0, 0]).log = [(0, 1), (1, 7), (0, 2)] := by decide

end Ftdc.Props.C10
