import FtdcVerif.Lemmas.HdrRank
import FtdcVerif.Lemmas.Window
import FtdcVerif.Lemmas.HdrMinMax
import FtdcVerif.Lemmas.HdrMergeX
import FtdcVerif.Lemmas.HdrMean
import FtdcVerif.Lemmas.CodeTie
/-!
# C13 — quantiles, merges, windows and snapshots agree with an exact oracle

Each statistic is a fact about the list of positions the iterator reports for a histogram that
holds a given multiset (`Hdr.Holds`).  Left to the exact oracle of the `hdr-stat` stream: the float operations
(`Mean`'s division, `q → rank`).
-/
namespace Ftdc.Props.C13
open Ftdc.Hdr

theorem import_export_identity (minV : Int) (maxV s : Nat) (vs : List Int) :
    import_ (export_ (recordAll (new minV maxV s) vs)) = recordAll (new minV maxV s) vs :=
  import_export minV maxV s vs

example : import_ (export_ (recordAll (new 1 100 2) [5, 5, 99, 1000, -3])) =
    recordAll (new 1 100 2) [5, 5, 99, 1000, -3] := import_export_identity _ _ _ _

/-- counts are never negative, so `Import`'s "sum of the positive counts" is the total -/
theorem counts_nonneg (minV : Int) (maxV s : Nat) (vs : List Int) :
    NonNeg (recordAll (new minV maxV s) vs) :=
  (recordAll_fresh rfl rfl vs).2.1

/-- recording `n` occurrences at once adds `n` to the total and to the sum of the counts -/
theorem record_many (h h' : Hist) (v n : Int) (inv : Inv h) (he : recordValues h v n = some h') :
    h'.total = h.total + n ∧ h'.counts.sum = h.counts.sum + n ∧ SameCfg h h' := by
  obtain ⟨i, t, c⟩ := recordValues_spec he inv
  exact ⟨t, by rw [i.2, t, inv.2], c⟩

/-- one merge step conserves counts: a representative is either recorded (its count is added)
or dropped (its count goes to `dropped`) -/
theorem merge_step_conserves (acc : Hist × Int) (p : IterPos) (inv : Inv acc.1) :
    let r := match recordValues acc.1 p.valueFrom p.countAt with
      | some h' => (h', acc.2)
      | none => (acc.1, acc.2 + p.countAt)
    r.1.total + r.2 = acc.1.total + acc.2 + p.countAt ∧ Inv r.1 := by
  cases he : recordValues acc.1 p.valueFrom p.countAt with
  | none => dsimp only; exact ⟨by omega, inv⟩
  | some h' =>
    obtain ⟨i, t, _⟩ := recordValues_spec he inv
    dsimp only
    exact ⟨by rw [t]; omega, i⟩

/-! ### quantiles are order statistics

`ValueAtQuantile(q)` computes the rank `r = round(q·n/100)` in floating point (trusted) and returns
the value at that rank; `valueAtRank` is the model of the rest. -/

/-- **The value at rank `r` is the histogram's representative of the exact order statistic of
rank `r`**, for every configuration, every list of recorded `int64` values (rejected values are
ignored, as `RecordValue` does) and every rank. -/
theorem quantile_is_order_statistic {minV : Int} {maxV s : Nat} (hv : Valid minV maxV s)
    (vs : List Int) (h63 : ∀ v ∈ vs, v < 2 ^ 63) (r x : Nat)
    (hos : IsOrderStat (accepted (new minV maxV s) vs) r x) :
    valueAtRank (recordAll (new minV maxV s) vs) r = highestEquiv (new minV maxV s) x :=
  valueAtRank_orderStat (new_wf hv) rfl rfl vs h63 r x hos

/-- the same statement with the sorted list spelled out: the value at rank `r` is the
representative of the `r`-th smallest accepted value -/
theorem quantile_is_rth_smallest {minV : Int} {maxV s : Nat} (hv : Valid minV maxV s)
    (vs : List Int) (h63 : ∀ v ∈ vs, v < 2 ^ 63) (r : Nat) (h1 : 1 ≤ r)
    (hr : r ≤ ((accepted (new minV maxV s) vs).mergeSort (fun a b => decide (a ≤ b))).length) :
    valueAtRank (recordAll (new minV maxV s) vs) r =
      highestEquiv (new minV maxV s)
        (((accepted (new minV maxV s) vs).mergeSort (fun a b => decide (a ≤ b)))[r - 1]'(by omega)) :=
  quantile_is_order_statistic hv vs h63 r _ (orderStat_sorted _ r h1 hr)

theorem quantile_monotone {minV : Int} {maxV s : Nat} (hv : Valid minV maxV s)
    (vs : List Int) (h63 : ∀ v ∈ vs, v < 2 ^ 63) (r r' : Nat) (h1 : 1 ≤ r) (hrr : r ≤ r')
    (hr : r' ≤ (accepted (new minV maxV s) vs).length) :
    valueAtRank (recordAll (new minV maxV s) vs) r ≤ valueAtRank (recordAll (new minV maxV s) vs) r' := by
  have hlen := (List.mergeSort_perm (accepted (new minV maxV s) vs) (fun a b => decide (a ≤ b))).length_eq
  have o := orderStat_sorted (accepted (new minV maxV s) vs) r h1 (by omega)
  have o' := orderStat_sorted (accepted (new minV maxV s) vs) r' (by omega) (by omega)
  rw [quantile_is_order_statistic hv vs h63 r _ o, quantile_is_order_statistic hv vs h63 r' _ o']
  exact highestEquiv_mono (new_wf hv) (orderStat_mono hrr o o') (mem_accepted (new_wf hv) h63 o'.1)

/-- the representative is within the precision bound of the order statistic itself -/
theorem quantile_within_precision {minV : Int} {maxV s : Nat} (hv : Valid minV maxV s)
    (vs : List Int) (h63 : ∀ v ∈ vs, v < 2 ^ 63) (r x : Nat)
    (hos : IsOrderStat (accepted (new minV maxV s) vs) r x) :
    let q := valueAtRank (recordAll (new minV maxV s) vs) r
    x ≤ q ∧ (q < x + 2 ^ (new minV maxV s).unitMag ∨ (q + 1 - x) * 10 ^ s ≤ x) := by
  have hx := mem_accepted (new_wf hv) h63 hos.1
  simp only [quantile_is_order_statistic hv vs h63 r x hos]
  exact ⟨(value_in_range' (new_wf hv) hx).2, (range_precision (new_wf hv) hx).1⟩

/-- **`Max()` is the representative of the largest recorded value**, and lies within the precision
bound above it -/
theorem max_is_representative_of_maximum {minV : Int} {maxV s : Nat} (hv : Valid minV maxV s)
    (vs : List Int) (h63 : ∀ v ∈ vs, v < 2 ^ 63) (x : Nat)
    (hx : x ∈ accepted (new minV maxV s) vs) (hmax : ∀ a ∈ accepted (new minV maxV s) vs, a ≤ x) :
    Hdr.maxV (recordAll (new minV maxV s) vs) = highestEquiv (new minV maxV s) x ∧
    x ≤ highestEquiv (new minV maxV s) x ∧
    (highestEquiv (new minV maxV s) x < x + 2 ^ (new minV maxV s).unitMag ∨
      (highestEquiv (new minV maxV s) x + 1 - x) * 10 ^ s ≤ x) := by
  have wf := new_wf hv
  have hxc := mem_accepted wf h63 hx
  exact ⟨by rw [(holds_recordAll wf rfl rfl vs h63).maxV hx hmax, highestEquiv_recordAll],
    (value_in_range' wf hxc).2, (range_precision wf hxc).1⟩

/-- **`Min()` is the lowest equivalent value of the smallest recorded value**, and lies within the
precision bound below it -/
theorem min_is_lowest_equivalent_of_minimum {minV : Int} {maxV s : Nat} (hv : Valid minV maxV s)
    (vs : List Int) (h63 : ∀ v ∈ vs, v < 2 ^ 63) (x : Nat)
    (hx : x ∈ accepted (new minV maxV s) vs) (hmin : ∀ a ∈ accepted (new minV maxV s) vs, x ≤ a) :
    Hdr.minV (recordAll (new minV maxV s) vs) = lowestEquiv (new minV maxV s) x ∧
    lowestEquiv (new minV maxV s) x ≤ x ∧
    (x < lowestEquiv (new minV maxV s) x + 2 ^ (new minV maxV s).unitMag ∨
      (x + 1 - lowestEquiv (new minV maxV s) x) * 10 ^ s ≤ x) := by
  have wf := new_wf hv
  have hxc := mem_accepted wf h63 hx
  exact ⟨by rw [(holds_recordAll wf rfl rfl vs h63).minV hx hmin, lowestEquiv_recordAll],
    (value_in_range' wf hxc).1, (range_precision wf hxc).2⟩

/-- **The numerator of `Mean()` is the sum of the median equivalent values of the recorded values** -/
theorem mean_numerator_is_sum_of_medians {minV : Int} {maxV s : Nat} (hv : Valid minV maxV s)
    (vs : List Int) (h63 : ∀ v ∈ vs, v < 2 ^ 63) :
    meanNum (recordAll (new minV maxV s) vs) =
      ((accepted (new minV maxV s) vs).map fun a => ((medianEquiv (new minV maxV s) a : Nat) : Int)).sum := by
  rw [(holds_recordAll (new_wf hv) rfl rfl vs h63).meanNum]
  simp only [medianEquiv_recordAll]

/-- every median equivalent value is within half a range of the value itself, and the range is
within the precision bound (`quantile_within_precision`) -/
theorem median_within_half_range {minV : Int} {maxV s : Nat} (hv : Valid minV maxV s) (a : Nat)
    (ha : a < cap (new minV maxV s)) :
    medianEquiv (new minV maxV s) a ≤ a + sizeOfRange (new minV maxV s) a / 2 ∧
    a ≤ medianEquiv (new minV maxV s) a + sizeOfRange (new minV maxV s) a / 2 :=
  median_half_range (new_wf hv) ha

/-- **Merging two histograms of the same configuration equals recording the union of their values,
and nothing is dropped** -/
theorem merge_is_union {minV : Int} {maxV s : Nat} (hv : Valid minV maxV s) (vs ws : List Int) :
    merge (recordAll (new minV maxV s) vs) (recordAll (new minV maxV s) ws) =
      (recordAll (new minV maxV s) (vs ++ ws), 0) :=
  merge_recordAll (new_wf hv) rfl rfl vs ws

/-- **Merging across configurations, with the dropped count exact.**  `Merge` re-records every value `a` its argument
holds as `rep a` (the lowest value of `a`'s range in the argument): the receiver ends up as if its own values and those
representatives had been recorded, and the dropped count is the number of representatives it rejects. -/
theorem merge_any_configuration {minH minG : Int} {maxH sH maxG sG : Nat}
    (hvG : Valid minG maxG sG) (vs ws : List Int) (h63 : ∀ w ∈ ws, w < 2 ^ 63) :
    merge (recordAll (new minH maxH sH) vs) (recordAll (new minG maxG sG) ws) =
      (recordAll (new minH maxH sH) (vs ++ (accepted (new minG maxG sG) ws).map (rep (new minG maxG sG))),
       (((accepted (new minG maxG sG) ws).countP fun a => !accepts (new minH maxH sH) (rep (new minG maxG sG) a) : Nat) : Int)) := by
  have hrep : rep (recordAll (new minG maxG sG) ws) = rep (new minG maxG sG) := by
    funext a; unfold rep; rw [lowestEquiv_recordAll]
  rw [(holds_recordAll (new_wf hvG) rfl rfl ws h63).merge _ (recordAll_spec vs _ (new_inv _ _ _)).1.1,
    recordAll_append, hrep]
  simp only [accepts_recordAll]

theorem record_order_irrelevant {minV : Int} {maxV s : Nat} (l1 l2 : List Int) (hp : l1.Perm l2) :
    recordAll (new minV maxV s) l1 = recordAll (new minV maxV s) l2 := by
  have hc : cnts (new minV maxV s) (new minV maxV s).counts l1 = cnts (new minV maxV s) (new minV maxV s).counts l2 :=
    ext_getD (by rw [cnts_length, cnts_length]) fun i => by
      rw [cnts_getD _ _ i _ (new_inv ..).1, cnts_getD _ _ i _ (new_inv ..).1, hp.countP_eq]
  rw [recordAll_eq_cnts, recordAll_eq_cnts, (hp.filter _).length_eq, hc]

theorem merge_commutes {minV : Int} {maxV s : Nat} (hv : Valid minV maxV s) (vs ws : List Int) :
    merge (recordAll (new minV maxV s) vs) (recordAll (new minV maxV s) ws) =
    merge (recordAll (new minV maxV s) ws) (recordAll (new minV maxV s) vs) := by
  rw [merge_is_union hv, merge_is_union hv, record_order_irrelevant _ _ List.perm_append_comm]

/-! ### windows

The window is `n` histograms; `Rotate` clears the slot that becomes current, `Merge` merges every
slot into a fresh histogram.  The abstract state keeps, per slot, the values recorded into it since
it was last cleared. -/

inductive WOp where
  | record (v : Int)
  | rotate

def _root_.Ftdc.Hdr.Win.apply (w : Win) : WOp → Win
  | .record v => w.record v
  | .rotate => w.rotate

structure AWin where
  n : Nat
  slots : List (List Int)
  idx : Nat

def AWin.apply (a : AWin) : WOp → AWin
  | .record v => { a with slots := a.slots.modify (a.idx % a.n) (· ++ [v]) }
  | .rotate => { a with idx := a.idx + 1, slots := a.slots.modify ((a.idx + 1) % a.n) (fun _ => []) }

def AWin.new (n : Nat) : AWin := { n := n, slots := List.replicate n [], idx := 0 }

def WRel (h0 : Hist) (w : Win) (a : AWin) : Prop :=
  w.h0 = h0 ∧ w.n = a.n ∧ w.idx = a.idx ∧ w.hs = a.slots.map (recordAll h0)

theorem wrel_new (n : Nat) (h0 : Hist) : WRel h0 (Win.new n h0) (AWin.new n) :=
  ⟨rfl, rfl, rfl, by simp [Win.new, AWin.new, recordAll]⟩

theorem wrel_step {h0 : Hist} {w : Win} {a : AWin} (r : WRel h0 w a) (op : WOp) :
    WRel h0 (w.apply op) (a.apply op) := by
  obtain ⟨r1, r2, r3, r4⟩ := r
  cases op with
  | record v =>
    refine ⟨r1, r2, r3, ?_⟩
    show w.hs.modify (w.idx % w.n) _ = (a.slots.modify (a.idx % a.n) _).map _
    rw [r4, r2, r3]
    exact (map_modify (recordAll h0) (· ++ [v]) (fun h => (recordValue h v).getD h)
      (by intro l; simp [recordAll, List.foldl_append]) _ _).symm
  | rotate =>
    refine ⟨r1, r2, by show w.idx + 1 = a.idx + 1; rw [r3], ?_⟩
    show w.hs.modify ((w.idx + 1) % w.n) _ = (a.slots.modify ((a.idx + 1) % a.n) _).map _
    rw [r4, r2, r3, r1]
    exact (map_modify (recordAll h0) (fun _ => []) (fun _ => h0) (by intro l; simp [recordAll]) _ _).symm

/-- **A windowed histogram's merge equals recording the union of what its slots hold, with nothing
dropped**, after any sequence of records and rotations -/
theorem window_merge_is_union {minV : Int} {maxV s : Nat} (hv : Valid minV maxV s) (n : Nat) (ops : List WOp) :
    (ops.foldl Win.apply (Win.new n (new minV maxV s))).merge =
      (recordAll (new minV maxV s) (ops.foldl AWin.apply (AWin.new n)).slots.flatten, 0) := by
  obtain ⟨r1, _, _, r4⟩ := List.foldl_rel (l := ops) (r := WRel (new minV maxV s)) (wrel_new n _) (fun op _ _ _ r => wrel_step r op)
  unfold Win.merge
  rw [r1, r4]
  have key : ∀ (slots : List (List Int)) (L : List Int),
      (slots.map (recordAll (new minV maxV s))).foldl
        (fun (acc : Hist × Int) h => let r := merge acc.1 h; (r.1, acc.2 + r.2))
        (recordAll (new minV maxV s) L, 0) =
      (recordAll (new minV maxV s) (L ++ slots.flatten), 0) := by
    intro slots
    induction slots with
    | nil => intro L; simp
    | cons sl slots ih =>
      intro L
      simp only [List.map_cons, List.foldl_cons, merge_is_union hv]
      rw [show ((0 : Int) + 0) = 0 from rfl, ih (L ++ sl)]
      simp [List.append_assoc]
  exact key _ []

/-! ### ... and the slots hold exactly the last `n` generations

The chronological window `CWin` keeps the last `n` generations oldest first: `Rotate` drops the
oldest and opens a new empty one, a record goes to the newest. -/

open Ftdc.Window in
def cwinApply (c : CWin) : WOp → CWin
  | .record v => c.record v
  | .rotate => c.rotate

open Ftdc.Window in
theorem awin_rel (n : Nat) (hn : 0 < n) (ops : List WOp) :
    let a := ops.foldl AWin.apply (AWin.new n)
    let c := ops.foldl cwinApply ⟨List.replicate n []⟩
    a.n = n ∧ Rel n a.slots a.idx c.win := by
  refine List.foldl_rel (l := ops) (r := fun (a : AWin) (c : CWin) => a.n = n ∧ Rel n a.slots a.idx c.win)
    ⟨rfl, rel_init n⟩ (fun op _ a c ⟨h1, h2⟩ => ?_)
  cases op with
  | record v => exact ⟨h1, by simpa only [AWin.apply, cwinApply, CWin.record, h1] using rel_record v h2 hn⟩
  | rotate => exact ⟨h1, by simpa only [AWin.apply, cwinApply, CWin.rotate, h1] using rel_rotate h2 hn⟩

open Ftdc.Window in
/-- **A windowed histogram's merge equals the union of its last `n` windows**, for every
configuration, every `n ≥ 1` and every schedule of records and rotations -/
theorem window_merge_is_last_n_windows {minV : Int} {maxV s : Nat} (hv : Valid minV maxV s) (n : Nat) (hn : 0 < n)
    (ops : List WOp) :
    (ops.foldl Win.apply (Win.new n (new minV maxV s))).merge =
      (recordAll (new minV maxV s) (ops.foldl cwinApply ⟨List.replicate n []⟩).win.flatten, 0) := by
  rw [window_merge_is_union hv]
  have := (awin_rel n hn ops).2
  rw [record_order_irrelevant _ _ (slots_perm this hn)]

/-! ### The Go text itself (regenerated)

The value a quantile, `Max`, `Min` or `Mean` reports is computed by `valueFromIndex`, `lowestEquivalentValue`,
`highestEquivalentValue` and `medianEquivalentValue` of hdr.go.  These are translated from the Go source on every run
(Gen/Code.lean, 32-bit arithmetic exact) and equal the model's functions the theorems above speak about. -/
theorem go_value_functions_are_model {minV : Int} {maxV s : Nat} (hv : Valid minV maxV s) (v : Nat) (h63 : v < 2 ^ 63)
    (b sub : Nat) :
    let h := new minV maxV s
    Gen.Hdr.valueFromIndex (CodeTie.cfgOf h) b sub = (valueFromIndex h b sub : Int) ∧
    Gen.Hdr.lowestEquivalentValue (CodeTie.cfgOf h) v = (lowestEquiv h v : Int) ∧
    Gen.Hdr.highestEquivalentValue (CodeTie.cfgOf h) v = (highestEquiv h v : Int) ∧
    Gen.Hdr.medianEquivalentValue (CodeTie.cfgOf h) v = (medianEquiv h v : Int) := by
  intro h
  have wf := new_wf hv
  have hh := new_halfMag_le hv
  exact ⟨CodeTie.valueFromIndex_tie h b sub, CodeTie.lowestEquivalentValue_tie wf v h63 hh,
    CodeTie.highestEquivalentValue_tie wf v h63 hh, CodeTie.medianEquivalentValue_tie wf v h63 hh⟩

/-- the quantile theorem restated with hdr.go's own `highestEquivalentValue`: the value at rank `r` is what the
translated Go function returns for the exact order statistic -/
theorem go_quantile_is_order_statistic {minV : Int} {maxV s : Nat} (hv : Valid minV maxV s)
    (vs : List Int) (h63 : ∀ v ∈ vs, v < 2 ^ 63) (r x : Nat) (hx : x < 2 ^ 63)
    (hos : IsOrderStat (accepted (new minV maxV s) vs) r x) :
    (valueAtRank (recordAll (new minV maxV s) vs) r : Int) =
      Gen.Hdr.highestEquivalentValue (CodeTie.cfgOf (new minV maxV s)) x := by
  rw [(go_value_functions_are_model hv x hx 0 0).2.2.1, quantile_is_order_statistic hv vs h63 r x hos]

/-- `CodeTie.next_tie` under the property's name -/
theorem go_iterator_step_is_model {h : Hist} (wf : WF h) (hh : h.halfMag ≤ 20) (fuel b : Nat) (s ct ca vf hi : Int)
    (hs1 : -1 ≤ s) (hs2 : s < h.subCount) (hb : b ≤ h.bucketCount) :
    match iterFrom (fuel + 1) h b s ct with
    | [] => (Gen.Hdr.next (CodeTie.itOf h b s ca ct vf hi)).1 = false
    | p :: _ => Gen.Hdr.next (CodeTie.itOf h b s ca ct vf hi) =
        (true, CodeTie.itOf h p.b p.s p.countAt p.countTo p.valueFrom p.highest) :=
  CodeTie.next_tie wf hh fuel b s ct ca vf hi hs1 hs2 hb

/-- `CodeTie.Max_tie`, `Min_tie` under the property's name, for every histogram reachable from `New` -/
theorem go_Max_Min_are_model {minV : Int} {maxV s : Nat} (hv : Valid minV maxV s) (vs : List Int) :
    let h := recordAll (new minV maxV s) vs
    Gen.Hdr.Max (h.countsLen + 2) (CodeTie.cfgOf h) = (Hdr.maxV h : Int) ∧
    Gen.Hdr.Min (h.countsLen + 2) (CodeTie.cfgOf h) = (Hdr.minV h : Int) := by
  obtain ⟨wf, hh⟩ := reach_wf_halfMag hv vs
  exact ⟨CodeTie.Max_tie wf hh, CodeTie.Min_tie wf hh⟩

end Ftdc.Props.C13
