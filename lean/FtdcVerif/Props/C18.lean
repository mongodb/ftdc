import FtdcVerif.Lemmas.Csv
/-!
# C18 — CSV export and import preserve the metric table

Records are lists of fields; splitting/quoting is `encoding/csv` (external; the harness parses
the real text with it, so keys with commas, quotes and newlines are exercised there).  Proved
here for every chunk stream: the CSV is a header of the metric keys followed by one row of
integer-normalised values per sample; every field of every row parses back to the same integer
(`atoi ∘ itoa = id`, concrete decimal functions); `WriteCSV` fails exactly when the metric count
changes; `DumpCSV` starts a new file exactly then.
-/
namespace Ftdc.Props.C18
open Ftdc

/-- `strconv.Atoi(strconv.FormatInt(v, 10)) = v` for every int64 (indeed every integer) -/
theorem integer_text_roundtrip (v : Int) : atoi (itoa v) = some v := atoi_itoa v

theorem row_is_integer_table (c : Chunk) (i : Nat) :
    (c.record i).map atoi = c.metrics.map fun m => some ((m.values.getD i 0).toInt) := by
  simp [Chunk.record, List.map_map, Function.comp_def, atoi_itoa]

theorem header_and_row_count (c : Chunk) :
    c.header = c.metrics.map Metric.key ∧ c.records.length = c.nPoints ∧
    ∀ i, (c.record i).length = c.metrics.length := by
  simp [Chunk.header, Chunk.records, Chunk.record]

/-- a stream whose metric count never changes: `WriteCSV` succeeds and writes the header of the
first chunk followed by all rows in order -/
theorem write_single_schema (c : Chunk) (cs : List Chunk)
    (h : ∀ x ∈ cs, x.metrics.length = c.metrics.length) :
    writeCsv none (c :: cs) = (c.header :: (c.records ++ (cs.map Chunk.records).flatten), true) := by
  have gen : ∀ (n : Nat) (cs : List Chunk), (∀ x ∈ cs, x.metrics.length = n) →
      writeCsv (some n) cs = ((cs.map Chunk.records).flatten, true) := by
    intro n cs hx
    induction cs with
    | nil => rfl
    | cons x xs ih =>
      obtain ⟨hxn, hx⟩ := List.forall_mem_cons.1 hx
      simp only [writeCsv, hxn, ne_eq, not_true_eq_false, ite_false]
      rw [ih hx]
      simp
  simp only [writeCsv]
  rw [gen _ cs h]
  simp

theorem write_errors_on_change (n : Nat) (c : Chunk) (cs : List Chunk) (h : c.metrics.length ≠ n) :
    (writeCsv (some n) (c :: cs)).2 = false := by
  have : n ≠ c.metrics.length := fun e => h e.symm
  simp [writeCsv, this]

theorem dump_rotates_iff_count_changes (n : Nat) (cur : List (List Bytes)) (c : Chunk) (cs : List Chunk) :
    dumpCsv (some n) cur (c :: cs) =
      if n ≠ c.metrics.length then cur :: dumpCsv (some c.metrics.length) (c.header :: c.records) cs
      else dumpCsv (some n) (cur ++ c.records) cs := by
  simp [dumpCsv]

theorem dump_new_file_has_header (n : Nat) (cur : List (List Bytes)) (c : Chunk) (h : n ≠ c.metrics.length) :
    dumpCsv (some n) cur [c] = [cur, c.header :: c.records] := by
  simp [dumpCsv, h]

/-- converting a row back: the document has the header's keys and the row's integers, in order -/
theorem converted_document (c : Chunk) (i : Nat) :
    recordDoc c.header (c.record i) =
      BDoc.ofList (c.metrics.map fun m => (m.key, BVal.int64 (BitVec.ofInt 64 (m.values.getD i 0).toInt))) := by
  unfold recordDoc Chunk.header Chunk.record
  congr 1
  generalize c.metrics = ms
  induction ms with
  | nil => rfl
  | cons m r ih =>
    simp only [List.map_cons, List.zip_cons_cons, List.filterMap_cons, atoi_itoa, Option.map_some]
    rw [ih]

/-- ... and those integers are the table's values (two's complement identity) -/
theorem converted_value (v : I64) : BitVec.ofInt 64 v.toInt = v := by
  simp

example : atoi (itoa (-9223372036854775808)) = some (-9223372036854775808) := atoi_itoa _

end Ftdc.Props.C18
