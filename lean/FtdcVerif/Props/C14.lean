import FtdcVerif.Model.Events
import FtdcVerif.Lemmas.CodeTie
/-!
# C14 — event collectors persist running totals without losing any event's contribution

`totals` is the specification (the property text): the sum of all counters and timers of the
events so far, with the last event's time stamp, gauges and id (previous id plus one when zero).
The theorems hold for every event list (zero and non-zero ids, negative and extreme counters —
int64 arithmetic wraps on both sides — and nil events anywhere).
-/
namespace Ftdc.Props.C14
open Ftdc Ftdc.Events

/-- the specification: running totals after the non-nil events of a list, starting from `p` -/
def totalsFrom (p : Perf) : List Perf → Perf
  | [] => p
  | e :: es => totalsFrom (p.add e) es

/-- what must have been written after the events `e :: es` -/
def totals (e : Perf) (es : List Perf) : Perf := totalsFrom e es

theorem totalsFrom_eq_foldl (p : Perf) (es : List Perf) : totalsFrom p es = es.foldl Perf.add p := by
  induction es generalizing p with
  | nil => rfl
  | cons x xs ih => exact ih _

theorem totalsFrom_snoc (p : Perf) (es : List Perf) (e : Perf) :
    totalsFrom p (es ++ [e]) = (totalsFrom p es).add e := by
  simp only [totalsFrom_eq_foldl, List.foldl_append, List.foldl_cons, List.foldl_nil]

theorem totals_field (f : Perf → I64) (hf : ∀ p e, f (p.add e) = f p + f e) (p : Perf) (es : List Perf) :
    f (totalsFrom p es) = es.foldl (fun a e => a + f e) (f p) := by
  rw [totalsFrom_eq_foldl]
  exact (List.foldl_hom f (H := fun x y => (hf x y).symm)).symm

theorem totals_n (p : Perf) (es : List Perf) : (totalsFrom p es).n = es.foldl (fun a e => a + e.n) p.n :=
  totals_field (·.n) (fun _ _ => rfl) p es

theorem totals_ops (p : Perf) (es : List Perf) : (totalsFrom p es).ops = es.foldl (fun a e => a + e.ops) p.ops :=
  totals_field (·.ops) (fun _ _ => rfl) p es

theorem totals_dur (p : Perf) (es : List Perf) : (totalsFrom p es).dur = es.foldl (fun a e => a + e.dur) p.dur :=
  totals_field (·.dur) (fun _ _ => rfl) p es

/-- time stamp and gauges of the totals are the last event's -/
theorem totals_last (p : Perf) (es : List Perf) (e : Perf) :
    let t := totalsFrom p (es ++ [e])
    t.ts = e.ts ∧ t.state = e.state ∧ t.workers = e.workers ∧ t.failed = e.failed ∧
    t.id = nextId (totalsFrom p es).id e.id := by
  simp [totalsFrom_snoc, Perf.add]

/-- Cumulative collector: for the k-th non-nil event it writes the totals of events 1..k.  (The `[]` arm of the `match`
is never reached: the range is empty when there is no non-nil event.) -/
theorem cumulative_kth (evs : List Ev) :
    basicRun none evs = (List.range (evs.filterMap id).length).map fun k =>
      match (evs.filterMap id) with
      | [] => default
      | e :: es => totals e (es.take k) := by
  -- for every running state: the k-th sample written is the state after the first k+1 non-nil events
  have gen : ∀ (evs : List Ev) (cur : Option Perf),
      basicRun cur evs = (List.range (evs.filterMap id).length).map fun k =>
        match cur, (evs.filterMap id).take (k + 1) with
        | some c, l => totalsFrom c l
        | none, [] => default
        | none, e :: es => totalsFrom e es := by
    intro evs
    induction evs with
    | nil => intro cur; rfl
    | cons e es ih =>
      intro cur
      cases e with
      | none => simpa [basicRun, basicStep] using ih cur
      | some ev =>
        simp only [List.filterMap_cons, id, List.length_cons, List.range_succ_eq_map, List.map_cons, List.map_map]
        cases cur <;> simp [basicRun, basicStep, ih, totalsFrom, Function.comp_def]
  rw [gen]
  cases evs.filterMap id <;> rfl

theorem nil_refused (cur : Option Perf) : basicStep cur none = (cur, none) := rfl
theorem nil_refused_sampling (s : Sampling) : samplingStep s none = (s, none, false) := rfl

/-- pass-through collector: every non-nil event is written unchanged -/
theorem passthrough_exact (evs : List Ev) : evs.filterMap passthroughStep = evs.filterMap id := rfl

/-- Sampling collector, one non-nil event: the running total takes the event in (no event's contribution is lost),
the count goes up by one, and the total is written iff the count before the step is a multiple of `sample`. -/
theorem sampling_step (s : Sampling) (ev : Perf) :
    let r := samplingStep s (some ev)
    r.1.cur = some (match s.cur with | none => ev | some c => c.add ev) ∧
    r.1.count = s.count + 1 ∧
    r.2.1 = (if s.count % s.sample = 0 then r.1.cur else none) := by
  cases h : s.cur <;> simp [samplingStep, h]

/-- from a state whose running total is `c`, the sampling collector's running total after any events is the
cumulative total `totalsFrom c` of them, and its count has grown by their number.  A fresh collector has `cur = none` and
is no such state: `sampling_step` takes its first event in, and this applies from there. -/
theorem sampling_totals (evs : List Perf) (s : Sampling) (c : Perf) (hc : s.cur = some c) :
    ((evs.foldl (fun s e => (samplingStep s (some e)).1) s).cur) = some (totalsFrom c evs) ∧
    (evs.foldl (fun s e => (samplingStep s (some e)).1) s).count = s.count + evs.length := by
  induction evs generalizing s c with
  | nil => simp [hc, totalsFrom]
  | cons e es ih =>
    obtain ⟨h1, h2, -⟩ := sampling_step s e
    rw [hc] at h1
    have := ih _ (c.add e) h1
    exact ⟨this.1, by rw [List.foldl_cons, this.2, h2, List.length_cons]; omega⟩

/-- marshal/unmarshal round trip: every field survives (time stamp at millisecond precision) -/
theorem perf_roundtrip (p : Perf) : unmarshal {} (marshal p) = p := by
  cases p; rfl

/-- finding F13, the unrepaired decoder looked the operations counter up under "opts" -/
theorem opts_is_not_ops : ([111, 112, 116, 115] : Bytes) ≠ k_ops := by decide

example : basicRun none [some { n := 1 }, none, some { n := 2 }, some { n := 3, id := 7 }] =
    [{ n := 1 }, { n := 3, id := 1 }, { n := 6, id := 7 }] := by decide

/-- the running totals after every non-nil event (what a cumulative collector writes) -/
def allTotals (cur : Option Perf) (es : List Ev) : List Perf := basicRun cur es

/-- keep the entries whose gate is open (gates used up = closed) -/
def gateFilter : List Bool → List Perf → List Perf
  | _, [] => []
  | gs, p :: ps => (if gs.headD false then [p] else []) ++ gateFilter gs.tail ps

/-- Random-sampling and interval collectors, for every outcome of the random generator and every timing: whatever
the gates decide, what is written is a selection - in order - of the running totals of ALL events so far: an event
that is not written still contributes to every later sample -/
theorem gated_written_are_totals (gates : List Bool) (es : List Ev) (cur : Option Perf) :
    gatedRun cur gates es = gateFilter gates (basicRun cur es) := by
  induction es generalizing cur gates with
  | nil => simp [gatedRun, basicRun, gateFilter]
  | cons e es ih =>
    cases e with
    | none => simp [gatedRun, basicRun, basicStep, ih]
    | some ev =>
      cases cur <;> simp [gatedRun, basicRun, basicStep, gateFilter, ih]

/-- A sample the wrapped collector refuses still counts: for the cumulative collector a refusal of the n-th sample is a
closed gate at that position — what is persisted is the running totals of ALL events with the n-th left out, so every
later sample still contains the refused event's contribution.  The statement is `gated_written_are_totals` at the gate
list that is closed at position `n` only. -/
theorem refused_sample_still_counts (n : Nat) (es : List Ev) :
    gatedRun none (List.replicate n true ++ [false] ++ List.replicate es.length true) es
      = gateFilter (List.replicate n true ++ [false] ++ List.replicate es.length true) (basicRun none es) :=
  gated_written_are_totals _ es none

theorem gateFilter_open (n : Nat) (ps : List Perf) (h : ps.length ≤ n) : gateFilter (List.replicate n true) ps = ps := by
  induction ps generalizing n with
  | nil => rfl
  | cons p ps ih =>
    cases n with
    | zero => exact absurd h (Nat.not_succ_le_zero _)
    | succ m => simp [gateFilter, List.replicate_succ, ih m (Nat.le_of_succ_le_succ h)]

theorem gated_all_open (es : List Ev) : gatedRun none (List.replicate es.length true) es = basicRun none es := by
  rw [gated_written_are_totals]
  -- nil events use up no gate, so the gates may outnumber the samples
  refine gateFilter_open _ _ ?_
  rw [cumulative_kth, List.length_map, List.length_range]
  exact List.length_filterMap_le _ _

/-! ### The Go text itself (regenerated)

`Ftdc.Gen.Events.Add` (Gen/Code.lean) is translated from `Performance.Add` in events/performance.go on every
run of this check.  Run on the integers a model value stands for and reduced modulo 2^64 (Go's `int64`
wrap-around), it is the model's `Perf.add`, and the event handed in gets back the id it was given. -/
theorem go_performance_add_is_model (p e : Perf) :
    CodeTie.absP (Gen.Events.Add (CodeTie.concP p) (CodeTie.concP e)).1 = Perf.add p e ∧
    CodeTie.absP (Gen.Events.Add (CodeTie.concP p) (CodeTie.concP e)).2 = { e with id := nextId p.id e.id } :=
  CodeTie.Add_tie p e

/-- what a Go `Performance` value holds after an ideal-integer computation: every field reduced to `int64` -/
def wrapP (g : Gen.Events.Performance) : Gen.Events.Performance := CodeTie.concP (CodeTie.absP g)

theorem abs_conc (p : Perf) : CodeTie.absP (CodeTie.concP p) = p := by
  simp [CodeTie.absP, CodeTie.concP, BitVec.ofInt_toInt]

/-- the running totals computed by folding the translated Go `Add` over any list of events (each step's
result stored back into `int64` fields) are the specification's -/
theorem go_running_totals (p : Perf) (es : List Perf) :
    es.foldl (fun acc e => wrapP (Gen.Events.Add acc (CodeTie.concP e)).1) (CodeTie.concP p) =
      CodeTie.concP (totalsFrom p es) := by
  rw [totalsFrom_eq_foldl]
  -- one step: the translated `Add` on concrete values, stored back, is the model's `Perf.add`
  exact List.foldl_hom CodeTie.concP (H := fun p e => by unfold wrapP; rw [(CodeTie.Add_tie p e).1])

end Ftdc.Props.C14
