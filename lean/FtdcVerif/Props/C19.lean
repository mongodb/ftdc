import FtdcVerif.Model.Metrics
/-!
# C19 — metrics-package pipelines deliver every sample in order or fail loudly

`CollectJSONStream`: a result is returned only if every line was a readable, well-formed
document and was accepted by the collector — a malformed line or a line the scanner cannot
return in full makes the function fail, wherever it is and whenever flush ticks fire.
`CollectRuntime`: for every sequence of collect ticks, flush ticks and the final cancellation,
the ids in the files are exactly 0..n-1 in order, no file in the sequence is empty, and the
final partial batch is flushed.
-/
namespace Ftdc.Props.C19
open Ftdc Ftdc.Metrics

def isBadLine : JEvent → Bool
  | .line .malformed => true
  | .line .tooLong => true
  | _ => false

theorem json_all_or_error (n : Nat) (evs : List JEvent) (h : evs.any isBadLine = true) :
    collectJSON n evs = none := by
  have gen : ∀ s, jrun s evs = none := by
    intro s
    -- the arms of `jrun`: no event left, `jstep` stops, `jstep` goes on
    fun_induction jrun s evs with
    | case1 => cases h
    | case2 => rfl
    | case3 s e es s' hs ih =>
      rw [List.any_cons, Bool.or_eq_true] at h
      -- a bad line stops `jstep`
      exact ih (h.resolve_left fun hb => match e, hb, hs with
        | .line .malformed, _, hs | .line .tooLong, _, hs => nomatch hs)
  rw [collectJSON, gen]

/-- One step: on a well-formed line `jstep` goes on only if the collector accepts the document, and then with the
collector after that `Add`.  (A returned result needs every step to go on, so every line was accepted, none skipped.) -/
theorem json_result_means_all_accepted (s s' : JState) (d : BDoc)
    (h : jstep s (.line (.doc d)) = some s') : (s.coll.add d).2 = .ok ∧ s'.coll = (s.coll.add d).1 := by
  simp only [jstep] at h
  split at h
  · rename_i hok; injection h with h; subst h; exact ⟨hok, rfl⟩
  · cases h

theorem flush_appends (s s' : JState) (h : flusher s = some s') :
    ∃ o, s'.flushed = s.flushed ++ o := by
  unfold flusher at h
  split at h
  · injection h with h; subst h; exact ⟨[], by simp⟩
  · split at h
    · cases h
    · rename_i o _; injection h with h; subst h; exact ⟨o, rfl⟩

def collects (evs : List REvent) : Nat := (evs.filter (· = .collect)).length

def RInv (s : RState) : Prop :=
  s.files.flatten ++ s.pending = List.range s.next ∧ ∀ f ∈ s.files, f ≠ []

theorem rotate_inv (s : RState) (h : RInv s) : RInv (rotate s) ∧ (rotate s).next = s.next := by
  unfold rotate
  split
  · exact ⟨h, rfl⟩
  · rename_i hp
    refine ⟨⟨?_, ?_⟩, rfl⟩
    · simpa using h.1
    · intro f hf
      simp only [List.mem_append, List.mem_singleton] at hf
      rcases hf with hf | rfl
      · exact h.2 f hf
      · exact hp

theorem rstep_inv (s : RState) (e : REvent) (h : RInv s) :
    RInv (rstep s e) ∧ (rstep s e).next = s.next + (if e = .collect then 1 else 0) := by
  cases e with
  | collect =>
    refine ⟨⟨?_, h.2⟩, by simp [rstep]⟩
    simp only [rstep, List.range_succ, ← List.append_assoc, h.1]
  | flush =>
    have := rotate_inv s h
    exact ⟨this.1, by simpa [rstep] using this.2⟩

theorem run_inv (evs : List REvent) : ∀ (s : RState), RInv s →
    RInv (evs.foldl rstep s) ∧ (evs.foldl rstep s).next = s.next + collects evs := by
  induction evs with
  | nil => intro s h; exact ⟨h, by simp [collects]⟩
  | cons e es ih =>
    intro s h
    obtain ⟨h1, h2⟩ := rstep_inv s e h
    obtain ⟨h3, h4⟩ := ih (rstep s e) h1
    refine ⟨h3, ?_⟩
    simp only [List.foldl_cons, h4, h2, collects, List.filter_cons]
    cases e <;> simp <;> omega

theorem runtime_ids (evs : List REvent) :
    (collectRuntime evs).flatten = List.range (collects evs) ∧ ∀ f ∈ collectRuntime evs, f ≠ [] := by
  obtain ⟨hinv, hn⟩ := run_inv evs {} ⟨by simp, by simp⟩
  obtain ⟨hr, hrn⟩ := rotate_inv _ hinv
  unfold collectRuntime
  have hp : (rotate (evs.foldl rstep {})).pending = [] := by
    unfold rotate; split
    · assumption
    · rfl
  have := hr.1
  rw [hp, List.append_nil, hrn, hn] at this
  exact ⟨by simpa using this, hr.2⟩

example : collectRuntime [.collect, .collect, .flush, .flush, .collect] = [[0, 1], [2]] := by decide

end Ftdc.Props.C19
