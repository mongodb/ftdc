import FtdcVerif.Lemmas.Hdr
import FtdcVerif.Lemmas.CodeTie
import FtdcVerif.Lemmas.HdrCorrected
/-!
# C12 — HDR histogram honours its precision and counting contract

Quantifiers: every configuration `Valid minV maxV s` (1 ≤ s ≤ 5, lowest < 2^40, highest < 2^62 — the range in which
no `int64` of the index arithmetic overflows), every value `v`, every list of recorded values.  The three float steps of
`New` are integer functions in the model (Model/Hdr); that they agree with Go's `math` functions is not proved: the
correspondence run samples it.
-/
namespace Ftdc.Props.C12
open Ftdc.Hdr

variable {minV : Int} {maxV s : Nat}

theorem record_succeeds (hv : Valid minV maxV s) (v : Nat) (hle : v ≤ maxV) :
    (recordValue (new minV maxV s) (v : Int)).isSome = true :=
  (recordValues_isSome _ _ 1).trans (accepts_reach hv [] v hle)

/-- In every state reachable by recording: acceptance depends on the configuration only. -/
theorem record_succeeds_always (hv : Valid minV maxV s) (vs : List Int) (v : Nat) (hle : v ≤ maxV) :
    (recordValue (recordAll (new minV maxV s) vs) (v : Int)).isSome = true :=
  (recordValues_isSome _ _ 1).trans (accepts_reach hv vs v hle)

theorem value_in_reported_range (hv : Valid minV maxV s) (v : Nat) (hle : v ≤ maxV) :
    lowestEquiv (new minV maxV s) v ≤ v ∧ v ≤ highestEquiv (new minV maxV s) v :=
  value_in_range (new_wf hv) hle

/-- The reported range `[lowest, highest]` has exactly `sizeOfRange` elements. -/
theorem range_size (h : Hist) (v : Nat) :
    highestEquiv h v + 1 = lowestEquiv h v + sizeOfRange h v :=
  highestEquiv_add_one v

/-- The range is no wider than max(unit, v·10^-sigfigs): it is either exactly the unit
`2^unitMag` (and that unit is at most `max 1 lowest`) or its width times `10^s` is at most `v`. -/
theorem range_width_bound (hv : Valid minV maxV s) (v : Nat) (hle : v ≤ maxV) :
    (sizeOfRange (new minV maxV s) v = 2 ^ (new minV maxV s).unitMag ∧
        ((2 ^ (new minV maxV s).unitMag : Nat) : Int) ≤ max 1 minV) ∨
    sizeOfRange (new minV maxV s) v * 10 ^ s ≤ v := by
  rcases width_bound (new_wf hv) (v := v) hle with h | h
  · left
    refine ⟨h, ?_⟩
    show ((2 ^ (if minV ≤ 0 then 0 else Nat.log2 minV.toNat) : Nat) : Int) ≤ max 1 minV
    split
    · exact Int.le_max_left 1 minV
    · rename_i hpos
      have := Nat.log2_self_le (mt Int.toNat_eq_zero.1 hpos)
      omega
  · right; exact h

/-- Counting: after any sequence of `RecordValue` calls the total equals the number of
successfully recorded values and the sum of all counts (rejected values: `rejected_is_noop`). -/
theorem total_count_conserved (vs : List Int) :
    let h0 := new minV maxV s
    let h := recordAll h0 vs
    h.total = ((vs.filter (accepts h0)).length : Int) ∧ h.counts.sum = h.total ∧
      h.counts.length = h.countsLen := by
  intro h0 h
  obtain ⟨inv, _, _, tot⟩ := recordAll_fresh (h0 := h0) rfl rfl vs
  exact ⟨tot, inv.2, inv.1⟩

theorem rejected_is_noop (h : Hist) (v : Int) (vs : List Int) (hr : recordValue h v = none) :
    recordAll h (v :: vs) = recordAll h vs := by
  rw [recordAll_cons, hr]; rfl

/-- A negative value is rejected, never wrapped or clamped. -/
theorem negative_rejected (h : Hist) (v : Int) (hv : v < 0) : recordValue h v = none := by
  simp [recordValue, recordValues, hv]

/-! Non-vacuity: the hypotheses are met by a concrete configuration, including the one
on which the unrepaired sizing loop failed (F12). -/
example : Valid 1 2048 3 := ⟨by decide, by decide, by decide, by decide⟩
example : (recordValue (new 1 2048 3) 2048).isSome = true :=
  record_succeeds ⟨by decide, by decide, by decide, by decide⟩ 2048 (by decide)

/-- `RecordCorrectedValue(v, ei)` reports no error and leaves what recording `correctedValues v ei` (Model/Hdr) value by
value leaves; about that list only `correctedValuesFrom_bounds` is proved. -/
theorem corrected_value_is_its_values (hv : Valid minV maxV s) (vs : List Int) (v ei : Int) (h0 : 0 ≤ v) (hle : v ≤ maxV) :
    recordCorrected (recordAll (new minV maxV s) vs) v ei =
      (recordAll (recordAll (new minV maxV s) vs) (correctedValues v ei), true) := by
  apply recordCorrected_spec (reach_wf_halfMag hv vs).1 v ei _ (by have := hv.maxLt; omega)
  have := accepts_reach hv vs v.toNat (Int.toNat_le.2 hle)
  rwa [Int.toNat_of_nonneg h0] at this

/-! ### The Go text itself (regenerated)

`go_code_is_model` says that the twelve translated index and range functions compute what the hand-written
model computes (all configurations `New` can establish, all values below 2^63); its hypotheses `hb hs hvb` concern
only the three conjuncts that take a bucket and a sub-bucket index, and what follows uses the single ties of
`Lemmas/CodeTie.lean`, not the conjunction. -/
section go
open Ftdc.CodeTie

theorem go_code_is_model {h : Hist} (wf : WF h) (hh : h.halfMag ≤ 20) (v : Nat) (hv : v < 2 ^ 63) (b s : Nat)
    (hb : b ≤ 64) (hs : s < 2 ^ 30) (hvb : v >>> (b + h.unitMag) < 2 ^ 31) :
    Gen.Hdr.bitLen (v : Int) = (bitLen v : Int) ∧
    Gen.Hdr.getBucketIndex (cfgOf h) v = (getBucketIndex h v : Int) ∧
    Gen.Hdr.getSubBucketIdx (cfgOf h) v b = (getSubBucketIdx h v b : Int) ∧
    Gen.Hdr.countsIndex (cfgOf h) b s = countsIndex h b s ∧
    Gen.Hdr.countsIndexFor (cfgOf h) v = countsIndexFor h v ∧
    Gen.Hdr.valueFromIndex (cfgOf h) b s = (valueFromIndex h b s : Int) ∧
    Gen.Hdr.sizeOfEquivalentValueRange (cfgOf h) v = (sizeOfRange h v : Int) ∧
    Gen.Hdr.lowestEquivalentValue (cfgOf h) v = (lowestEquiv h v : Int) ∧
    Gen.Hdr.nextNonEquivalentValue (cfgOf h) v = (nextNonEquiv h v : Int) ∧
    Gen.Hdr.highestEquivalentValue (cfgOf h) v = (highestEquiv h v : Int) ∧
    Gen.Hdr.medianEquivalentValue (cfgOf h) v = (medianEquiv h v : Int) ∧
    Gen.Hdr.getCountAtIndex (cfgOf h) b s = getCountAt h b s :=
  ⟨bitLen_tie v, getBucketIndex_tie wf v hv hh, getSubBucketIdx_tie h v b hvb, countsIndex_tie h b s hb hs hh wf.halfCount_eq,
   countsIndexFor_tie wf v hv hh, valueFromIndex_tie h b s, sizeOfEquivalentValueRange_tie wf v hv hh,
   lowestEquivalentValue_tie wf v hv hh, nextNonEquivalentValue_tie wf v hv hh, highestEquivalentValue_tie wf v hv hh,
   medianEquivalentValue_tie wf v hv hh, getCountAtIndex_tie h b s hb hs hh wf.halfCount_eq⟩

/-- hdr.go's `countsIndexFor` stays inside the counts array for every value up to the highest trackable one
(so `RecordValue` succeeds). -/
theorem go_index_in_range (hv : Valid minV maxV s) (v : Nat) (hle : v ≤ maxV) :
    0 ≤ Gen.Hdr.countsIndexFor (cfgOf (new minV maxV s)) v ∧
    Gen.Hdr.countsIndexFor (cfgOf (new minV maxV s)) v < (cfgOf (new minV maxV s)).countsLen := by
  rw [countsIndexFor_tie (new_wf hv) v (hv.lt63 hle) (new_halfMag_le hv)]
  exact index_in_range (new_wf hv) (v := v) hle

/-- hdr.go's `lowestEquivalentValue` / `highestEquivalentValue` bracket the value. -/
theorem go_value_in_reported_range (hv : Valid minV maxV s) (v : Nat) (hle : v ≤ maxV) :
    Gen.Hdr.lowestEquivalentValue (cfgOf (new minV maxV s)) v ≤ v ∧
    (v : Int) ≤ Gen.Hdr.highestEquivalentValue (cfgOf (new minV maxV s)) v := by
  rw [lowestEquivalentValue_tie (new_wf hv) v (hv.lt63 hle) (new_halfMag_le hv),
    highestEquivalentValue_tie (new_wf hv) v (hv.lt63 hle) (new_halfMag_le hv)]
  have := value_in_range (new_wf hv) hle
  omega

/-- hdr.go's `sizeOfEquivalentValueRange` is the unit or at most `v / 10^sigfigs`. -/
theorem go_range_width_bound (hv : Valid minV maxV s) (v : Nat) (hle : v ≤ maxV) :
    (Gen.Hdr.sizeOfEquivalentValueRange (cfgOf (new minV maxV s)) v = ((2 ^ (new minV maxV s).unitMag : Nat) : Int) ∧
        ((2 ^ (new minV maxV s).unitMag : Nat) : Int) ≤ max 1 minV) ∨
    Gen.Hdr.sizeOfEquivalentValueRange (cfgOf (new minV maxV s)) v * 10 ^ s ≤ v := by
  rw [sizeOfEquivalentValueRange_tie (new_wf hv) v (hv.lt63 hle) (new_halfMag_le hv)]
  rcases range_width_bound hv v hle with ⟨h1, h2⟩ | h
  · left; exact ⟨by rw [h1], h2⟩
  · right; exact_mod_cast h

/-- the fuel of the translated `bitLen` loop (64 rounds) is never exhausted on an int64: the loop has stopped
on its own (`x < 0x8000`) — so the fuel bound does not change the meaning of the Go loop -/
theorem go_bitLen_is_bit_length (v : Nat) (hv : v < 2 ^ 64) :
    Gen.Hdr.bitLen (v : Int) = ((if v = 0 then 0 else Nat.log2 v + 1 : Nat) : Int) := by
  rw [bitLen_tie, bitLen_eq_blen v hv]; rfl

/-- `CodeTie.RecordValues_tie` under the property's name -/
theorem go_RecordValues_is_model {h : Hist} (wf : WF h) (hh : h.halfMag ≤ 20) (v : Nat) (hv : v < 2 ^ 63) (n : Int) :
    Gen.Hdr.RecordValues (cfgOf h) v n = (recordValues h v n).map cfgOf :=
  RecordValues_tie wf v hv hh n

theorem go_record_succeeds (hv : Valid minV maxV s) (vs : List Int) (v : Nat) (hle : v ≤ maxV) (n : Int) :
    (Gen.Hdr.RecordValues (cfgOf (recordAll (new minV maxV s) vs)) v n).isSome = true := by
  obtain ⟨wf, hh⟩ := reach_wf_halfMag hv vs
  rw [RecordValues_tie wf v (hv.lt63 hle) hh n, Option.isSome_map, recordValues_isSome]
  exact accepts_reach hv vs v hle

/-- the sizing loop of `New`, translated from hdr.go, computes the model's bucket count (and with `bucketsLoop_spec`
enough buckets for the highest trackable value itself - the comparison that finding F12 had as `<`) -/
theorem go_sizing_loop_is_model (fuel smallest mx n : Nat) :
    (Gen.Hdr.New_loop1 (mx : Int) fuel (n : Int) (smallest : Int)).1 = (bucketsLoop fuel smallest mx n : Int) :=
  New_loop_tie fuel smallest mx n

/-- with the translated loop: `New(1, 2048, 3)` gets the bucket that holds 2048 (F12's input) -/
example : (Gen.Hdr.New_loop1 2048 64 1 2048).1 = 2 := by decide

example : Gen.Hdr.countsIndexFor (cfgOf (new 1 2048 3)) 2048 = 2048 := by decide

end go

/-! ### known finding F22: `New` does not return when the highest trackable value is 2^62 or more

`New`'s sizing loop is `for smallestUntrackableValue <= maxValue { smallestUntrackableValue <<= 1; … }` on `int64`, started at
`int64(subBucketCount) << unitMagnitude`, a power of two.  In 64-bit arithmetic (this section; the translation in `Gen/Code.lean`
is over ideal integers, where nothing wraps; it agrees with the `int64` loop only while the register stays below 2^63) the register runs through
2^k, …, 2^62, -2^63, 0, 0, …: every one of them is `<= maxValue` once `maxValue >= 2^62`, so the condition never fails.
The check replays `hdr-rec 1 4611686018427387904 1 5` against the real code in a child process with a watchdog. -/
/-- one round of `New`'s sizing loop on the 64-bit register: `smallestUntrackableValue <<= 1` -/
def sizingStep (x : BitVec 64) : BitVec 64 := x <<< 1

/-- the register after `n` rounds -/
def sizingRounds : Nat → BitVec 64 → BitVec 64
  | 0, x => x
  | n + 1, x => sizingStep (sizingRounds n x)

theorem sizingRounds_shift (x : BitVec 64) : ∀ n : Nat, sizingRounds n x = x <<< n := by
  intro n
  induction n with
  | zero => simp [sizingRounds]
  | succ n ih => simp [sizingRounds, ih, sizingStep, BitVec.shiftLeft_add]

theorem one_shl_toInt_le (m : Nat) : ((1#64 <<< m)).toInt ≤ 2 ^ 62 := by
  -- `1 <<< m` is `BitVec.twoPow`: empty beyond the sign bit, `-2^63` at it, `2^m` below
  rw [← BitVec.twoPow_eq, BitVec.toInt_twoPow]
  split
  · decide
  · split
    · exact Int.le_trans (Int.neg_nonpos_of_nonneg (Int.natCast_nonneg _)) (by decide)
    · exact_mod_cast Nat.pow_le_pow_right (by decide : 0 < 2) (by omega : m ≤ 62)

/-- the loop condition `smallestUntrackableValue <= maxValue` holds after every number of rounds -/
theorem new_sizing_loop_never_exits_from_2_62 (k : Nat) (mx : BitVec 64) (hmx : (2 ^ 62 : Int) ≤ mx.toInt) :
    ∀ n, (sizingRounds n (1#64 <<< k)).sle mx = true := by
  intro n
  rw [sizingRounds_shift, ← BitVec.shiftLeft_add, BitVec.sle_iff_toInt_le]
  exact Int.le_trans (one_shl_toInt_le (k + n)) hmx

/-- non-vacuity: 2^62 itself is such a maximum, and `subBucketCount << unit` = 32 = 1 <<< 5 for one significant figure -/
example : (2 ^ 62 : Int) ≤ (BitVec.ofNat 64 (2 ^ 62)).toInt ∧ (32#64 = 1#64 <<< 5) := by decide

end Ftdc.Props.C12
