import FtdcVerif.Lemmas.SchemaHash
import FtdcVerif.Lemmas.ChopE2E
import FtdcVerif.Props.C07
/-!
# C08 — schema changes split chunks exactly and never corrupt, reject or drop samples

The schema-aware collectors decide "same schema" by comparing `metricKeyHash` values.  The whole
design rests on that comparison being exact: `schema_key_injective` proves (FNV aside, which is
an external function) that equal hash input means equal lists of full metric keys, for every
pair of documents with C-string keys.  `unseparated_keys_collide` is the witness that the
unrepaired byte stream (no separator, finding F10) did not have this property.  The one-step
theorems state what the collectors do with that decision; the whole-history theorems, that no chunk
mixes two schemas and where exactly a new chunk begins.  Whole histories over pools of schemas are
also compared with the implementation by the `schema` stream.
-/
namespace Ftdc.Props.C08
open Ftdc

/-- what is fed to the checksum is the NUL-terminated list of full metric keys -/
theorem hash_input_spec (d : BDoc) : (schemaKey d).1 = terminated (hashPathsElems [] d) :=
  hashElems_spec d []

/-- **the schema key is exact**: two documents whose hash input is equal have the same list of
full metric keys (same names, same nesting, same order) -/
theorem schema_key_injective (d1 d2 : BDoc) (h1 : NulFree d1) (h2 : NulFree d2)
    (h : (schemaKey d1).1 = (schemaKey d2).1) : hashPathsElems [] d1 = hashPathsElems [] d2 := by
  rw [hash_input_spec, hash_input_spec] at h
  exact terminated_inj _ _ (hashPathsElems_nulfree d1 h1 [] (by simp))
    (hashPathsElems_nulfree d2 h2 [] (by simp)) h

/-- the unrepaired hash input: keys written back to back -/
def unseparated (l : List Bytes) : Bytes := l.flatten

/-- finding F10: without separators `{a:{b:1},c:2}` and `{a:10,b:{c:20}}` have the same hash
input (and the same metric count) although their key lists differ -/
theorem unseparated_keys_collide :
    let d1 : BDoc := .cons [97] (.doc (.cons [98] (.int64 1#64) .nil)) (.cons [99] (.int64 2#64) .nil)
    let d2 : BDoc := .cons [97] (.int64 10#64) (.cons [98] (.doc (.cons [99] (.int64 20#64) .nil)) .nil)
    unseparated (hashPathsElems [] d1) = unseparated (hashPathsElems [] d2) ∧
    hashPathsElems [] d1 ≠ hashPathsElems [] d2 ∧ (schemaKey d1).2 = (schemaKey d2).2 ∧
    (schemaKey d1).1 ≠ (schemaKey d2).1 := by
  decide

/-! non-vacuity of `schema_key_injective` -/
example : NulFree (.cons [97] (.doc (.cons [98] (.int64 1#64) .nil)) (.cons [99] (.int64 2#64) .nil)) := by
  simp [NulFree, NulFreeVal]

/-- dynamic collector: a document with the current schema goes to the current chunk group -/
theorem dynamic_same_schema_continues (c : Dynamic) (d : BDoc) (h : Bytes × Nat) (last : Batch)
    (init : List Batch) (hh : c.hash = some h) (hk : h.1 = (schemaKey d).1)
    (hc : c.chunks = init ++ [last]) :
    (c.add d).1.chunks = init ++ [(last.add d).1] ∧ (c.add d).2 = (last.add d).2 := by
  rw [Dynamic.add_same d hh hk hc]
  exact ⟨rfl, rfl⟩

/-- dynamic collector: a document with a different schema starts a new chunk, is accepted, and
the new schema becomes the current one (fix F8) -/
theorem dynamic_schema_change_splits (c : Dynamic) (d : BDoc) (h : Bytes × Nat)
    (hh : c.hash = some h) (hk : h.1 ≠ (schemaKey d).1) (hn : 1 ≤ c.maxSamples) :
    (c.add d).1.chunks = c.chunks ++ [((Batch.new c.maxSamples).add d).1] ∧
    (c.add d).2 = .ok ∧ (c.add d).1.hash = some (schemaKey d) := by
  rw [Dynamic.add_other d hh hk]
  exact ⟨rfl, (Batch.add_new c.maxSamples hn d).1, rfl⟩

/-- collectors that are not schema-aware never store a document whose metric count or value
types differ from the chunk's: they refuse it and stay unchanged -/
theorem fixed_schema_refuses (c : Better) (d : BDoc) (r : BDoc) (hr : c.ref = some r)
    (hdiff : (extractDoc d).length ≠ c.last.length ∨ (extractDoc d).map (·.2) ≠ c.last.map (·.2)) :
    (c.add d).2 ≠ .ok ∧ (c.add d).1 = c := by
  have hne : (c.add d).2 ≠ .ok := by
    fun_cases Better.add c d
    · simp_all
    · simp
    · simp
    · simp
    · rcases hdiff with h | h <;> contradiction
  exact ⟨hne, Better.add_rejected_noop c d hne⟩

/-- every sample stored in a chunk has the chunk's metric count (so a decoded chunk never mixes
schemas of different size) -/
theorem stored_rows_have_chunk_width (c : Better) (h : c.Inv) (r : BDoc) (hr : c.ref = some r) :
    ∀ row ∈ c.samples, row.length = c.last.length := by
  intro row hrow
  obtain ⟨_, _, hshape⟩ := h
  have hs := hshape (by simp [hr])
  simp only [Better.samples, hr, Option.isSome_some, ite_true, List.mem_cons] at hrow
  rcases hrow with rfl | hrow
  · exact hs.1
  · exact hs.2 row hrow

/-! ### whole histories: a chunk of the schema-aware streaming collector never mixes schemas -/

/-- the samples of every metric chunk in the complete writes of a writer, chunk by chunk -/
def chunkRows (w : Writer) : List (List Row) :=
  (w.log.map fun e => match e with
    | WEntry.full docs => docs.filterMap fun o => match o with
        | OutDoc.chunk _ _ f r => some (f :: r)
        | OutDoc.metaDoc _ _ => none
    | WEntry.partialWrite _ _ => []).flatten

/-- `vals` (Lemmas/Codec) under the name this file's statements use -/
def valsOf (d : BDoc) : Row := (extractDoc d).map (·.1)

def OneKey (ch : List BDoc) : Prop := ∃ k, ∀ d ∈ ch, schemaKey d = k

/-- ghost invariant: `chs` are the documents of the written chunks, `cur` those of the pending samples.  It holds for any
documents and knows of a chunk its rows and that its documents have one key; `SDG` (Lemmas/SDynE2E) knows the chunks'
contents, for input that comes in runs of `SimDoc` documents. -/
structure G (c : StreamingDynamic) (chs : List (List BDoc)) (cur : List BDoc) : Prop where
  script : c.s.out.script = []
  written : chunkRows c.s.out = chs.map (·.map valsOf)
  pending : c.s.inner.samples = cur.map valsOf
  one : ∀ ch ∈ chs, OneKey ch
  key : cur = [] ∨ ∃ k, c.hash = some k ∧ ∀ d ∈ cur, schemaKey d = k
  nohash : c.hash = none → cur = []
  inv : c.s.inner.Inv

theorem sflush_ghost (s : Streaming) (cur : List BDoc) (hs : s.out.script = []) (hi : s.inner.Inv)
    (hp : s.inner.samples = cur.map valsOf) :
    (s.flush).2 = true ∧ (s.flush).1.out.script = [] ∧ (s.flush).1.inner.samples = [] ∧ (s.flush).1.inner.Inv ∧
    chunkRows (s.flush).1.out = chunkRows s.out ++ (if cur = [] then [] else [cur.map valsOf]) ∧
    (s.flush).1.maxSamples = s.maxSamples := by
  cases hr : s.inner.ref with
  | none =>
    have he := (Better.samples_eq_nil_iff _).2 hr
    have hc : cur = [] := List.map_eq_nil_iff.1 (hp.symm.trans he)
    rw [Streaming.flush_of_no_ref hi hr]
    exact ⟨rfl, hs, he, hi, by simp [hc], rfl⟩
  | some r =>
    have hc : cur ≠ [] := by rintro rfl; simp [Better.samples_of_ref hr] at hp
    rw [Streaming.flush_of_ref hs hr]
    refine ⟨rfl, hs, (Better.reset_empty _).1, Better.reset_inv _, ?_, rfl⟩
    rw [if_neg hc, ← hp, Better.samples_of_ref hr]
    cases s.inner.metadata <;> simp [Streaming.reset, chunkRows]

/-- either nothing is flushed and the sample joins the pending ones (or is rejected), or the pending ones are flushed
as one chunk and the sample starts the next -/
theorem sadd_ghost (s : Streaming) (cur : List BDoc) (d : BDoc) (hs : s.out.script = []) (hi : s.inner.Inv)
    (hp : s.inner.samples = cur.map valsOf) :
    (s.add d).1.out.script = [] ∧ (s.add d).1.inner.Inv ∧
    ∃ (extra : List (List BDoc)) (cur' : List BDoc),
      chunkRows (s.add d).1.out = chunkRows s.out ++ extra.map (·.map valsOf) ∧
      (s.add d).1.inner.samples = cur'.map valsOf ∧
      ((extra = [] ∧ (cur' = cur ++ [d] ∨ cur' = cur)) ∨
       (extra = (if cur = [] then [] else [cur]) ∧ cur' = [d])) := by
  obtain ⟨hfok, hfscript, hfempty, hfinv, hfrows, _⟩ := sflush_ghost s cur hs hi hp
  rcases Streaming.add_cases s d with ⟨_, e⟩ | ⟨_, hf, _⟩ | ⟨_, _, e⟩
  · rw [e, Streaming.addInner_out]
    refine ⟨hs, Streaming.addInner_inv d hi, [], if (s.addInner d).2 = .ok then cur ++ [d] else cur, by simp, ?_,
      .inl ⟨rfl, ?_⟩⟩
    · rw [Streaming.addInner_samples, hp]; split <;> simp [valsOf, vals]
    · split
      · exact .inl rfl
      · exact .inr rfl
  · rw [hfok] at hf; cases hf
  · -- the flushed collector is empty and takes the sample
    rw [e, Streaming.addInner_out]
    refine ⟨hfscript, Streaming.addInner_inv d hfinv, if cur = [] then [] else [cur], [d], ?_, ?_, .inr ⟨rfl, rfl⟩⟩
    · rw [hfrows]; by_cases hc : cur = [] <;> simp [hc]
    · rw [Streaming.addInner_samples, hfempty, Streaming.addInner_ok (Better.add_empty d hfempty)]; rfl

theorem oneKey_of_key {c : StreamingDynamic} {cur : List BDoc}
    (h : cur = [] ∨ ∃ k, c.hash = some k ∧ ∀ d ∈ cur, schemaKey d = k) : OneKey cur := by
  rcases h with rfl | ⟨k, _, hk⟩
  · exact ⟨([], 0), by simp⟩
  · exact ⟨k, hk⟩

theorem sd_ghost_step (c : StreamingDynamic) (chs : List (List BDoc)) (cur : List BDoc) (d : BDoc)
    (g : G c chs cur) : ∃ chs' cur', G (c.add d).1 chs' cur' := by
  -- the chunk a flush writes (none if nothing is pending) has one key
  have hflushed : ∀ cur1 : List BDoc, OneKey cur1 → ∀ ch ∈ (if cur1 = [] then [] else [cur1]), OneKey ch := by
    intro cur1 h
    split <;> simp [h]
  -- after an optional flush of the wrapped collector: state `s1` with pending `cur1`, chunks `chs1`
  have fin : ∀ (s1 : Streaming) (chs1 : List (List BDoc)) (cur1 : List BDoc),
      s1.out.script = [] → s1.inner.Inv → chunkRows s1.out = chs1.map (·.map valsOf) →
      s1.inner.samples = cur1.map valsOf → (∀ ch ∈ chs1, OneKey ch) →
      (∀ x ∈ cur1, schemaKey x = schemaKey d) →
      ∃ chs' cur', G ({ s := (s1.add d).1, hash := some (schemaKey d) } : StreamingDynamic) chs' cur' := by
    intro s1 chs1 cur1 hs hi hw hp hone hk
    obtain ⟨hscript', hinv', extra, cur', hwritten', hpending', hcase⟩ := sadd_ghost s1 cur1 d hs hi hp
    -- accepted without a flush, refused, or accepted after a flush
    obtain ⟨hextra, hcur'⟩ : (∀ ch ∈ extra, OneKey ch) ∧ ∀ x ∈ cur', schemaKey x = schemaKey d := by
      rcases hcase with ⟨rfl, rfl | rfl⟩ | ⟨rfl, rfl⟩
      · exact ⟨by simp, List.forall_mem_append.2 ⟨hk, List.forall_mem_singleton.2 rfl⟩⟩
      · exact ⟨by simp, hk⟩
      · exact ⟨hflushed cur1 ⟨_, hk⟩, List.forall_mem_singleton.2 rfl⟩
    exact ⟨chs1 ++ extra, cur', {
      script := hscript'
      written := by rw [hwritten', hw, List.map_append]
      pending := hpending'
      one := List.forall_mem_append.2 ⟨hone, hextra⟩
      key := .inr ⟨_, rfl, hcur'⟩
      nohash := fun h => nomatch h
      inv := hinv' }⟩
  obtain ⟨hfok, hfscript, hfempty, hfinv, hfrows, _⟩ := sflush_ghost c.s cur g.script g.inv g.pending
  rcases StreamingDynamic.add_cases c d with ⟨hnf, e⟩ | ⟨_, hf, _⟩ | ⟨_, _, e⟩
  · -- no flush: the pending documents have the key of `d`
    rw [e]
    refine fin c.s chs cur g.script g.inv g.written g.pending g.one ?_
    rcases g.key with rfl | ⟨k, hk1, hk2⟩
    · simp
    · intro x hx
      rw [hk2 x hx]
      exact Decidable.of_not_not fun hne => hnf ((StreamingDynamic.needFlush_of_hash hk1 d).2 hne)
  · rw [StreamingDynamic.flush_snd, hfok] at hf; cases hf
  · rw [e, StreamingDynamic.flush_fst_s]
    refine fin _ (chs ++ (if cur = [] then [] else [cur])) [] hfscript hfinv ?_ (by rw [hfempty]; rfl)
      (List.forall_mem_append.2 ⟨g.one, hflushed cur (oneKey_of_key g.key)⟩) (by simp)
    rw [hfrows, g.written]; by_cases hc : cur = [] <;> simp [hc]

/-- **Over every history of `Add`s (any schemas, any order, over a writer that accepts every write)
no chunk the schema-aware streaming collector writes mixes two schemas**: the written chunks are
the value rows of lists of documents that each have one schema key, and the pending samples belong to
documents that all have the collector's current key. -/
theorem streaming_dynamic_chunks_have_one_schema (n : Nat) (ds : List BDoc) :
    ∃ (chs : List (List BDoc)) (cur : List BDoc),
      let c := ds.foldl (fun (c : StreamingDynamic) d => (c.add d).1) (StreamingDynamic.new n)
      chunkRows c.s.out = chs.map (·.map valsOf) ∧ c.s.inner.samples = cur.map valsOf ∧
      (∀ ch ∈ chs, OneKey ch) ∧ OneKey cur := by
  obtain ⟨chs, cur, g⟩ := List.foldlRecOn (motive := fun c => ∃ chs cur, G c chs cur) ds
    (fun (c : StreamingDynamic) d => (c.add d).1) (b := StreamingDynamic.new n)
    ⟨[], [], {
      script := rfl
      written := rfl
      pending := rfl
      one := fun _ h => nomatch h
      key := .inl rfl
      nohash := fun _ => rfl
      inv := Better.fresh_inv n }⟩
    fun c ⟨chs, cur, g⟩ d _ => sd_ghost_step c chs cur d g
  exact ⟨chs, cur, g.written, g.pending, g.one, oneKey_of_key g.key⟩

/-! ### the same for the (non-streaming) dynamic collector: one batch per schema run -/

/-- all documents of a list have the same hash input (the dynamic collector compares the hash only) -/
def OneHash (g : List BDoc) : Prop := ∃ k, ∀ d ∈ g, (schemaKey d).1 = k

/-- ghost invariant of the dynamic collector: `groups[i]` are the documents batch collector `i` holds.  `fresh` says
`groups = [[]]`, not `[]`: `Dynamic.new` allocates one empty batch (as `Batch.new` one chunk: `BG`, Lemmas/BatchE2E).
`last`: a document that `Add` sends to the last batch has the hash input of those already there (`one` of the next state). -/
structure GD (c : Dynamic) (groups : List (List BDoc)) : Prop where
  pos : 1 ≤ c.maxSamples
  rows : c.chunks.map Batch.samples = groups.map (·.map valsOf)
  inv : ∀ b ∈ c.chunks, b.Inv ∧ b.maxSamples = c.maxSamples
  one : ∀ g ∈ groups, OneHash g
  last : ∀ h, c.hash = some h → ∀ g, groups.getLast? = some g → ∀ d ∈ g, (schemaKey d).1 = h.1
  fresh : c.hash = none → ∃ b, c.chunks = [b] ∧ b.samples = [] ∧ groups = [[]]
  ne : c.chunks ≠ []

/-- the invariant of a collector whose last batch `b` holds the group `grp` of documents of key `k` -/
theorem GD.snoc {n : Nat} {init : List Batch} {ginit : List (List BDoc)} {b : Batch} {grp : List BDoc}
    {k : Bytes × Nat} (hn : 1 ≤ n) (hrows : init.map Batch.samples = ginit.map (·.map valsOf))
    (hinv : ∀ x ∈ init, x.Inv ∧ x.maxSamples = n) (hone : ∀ x ∈ ginit, OneHash x)
    (hb : b.Inv ∧ b.maxSamples = n) (hs : b.samples = grp.map valsOf) (hk : ∀ x ∈ grp, (schemaKey x).1 = k.1) :
    GD { maxSamples := n, chunks := init ++ [b], hash := some k } (ginit ++ [grp]) where
  pos := hn
  rows := by simp only [List.map_append, List.map_cons, List.map_nil, hrows, hs]
  inv := List.forall_mem_append.2 ⟨hinv, List.forall_mem_singleton.2 hb⟩
  one := List.forall_mem_append.2 ⟨hone, List.forall_mem_singleton.2 ⟨k.1, hk⟩⟩
  last := by
    rintro h ⟨⟩ x hx
    rw [List.getLast?_concat] at hx
    cases hx
    exact hk
  fresh := fun h => nomatch h
  ne := by simp

theorem gd_step (c : Dynamic) (groups : List (List BDoc)) (d : BDoc) (g : GD c groups) :
    ∃ groups', GD (c.add d).1 groups' ∧
      groups'.flatten = groups.flatten ++ (if (c.add d).2 = .ok then [d] else []) := by
  have hkd : ∀ x ∈ [d], (schemaKey x).1 = (schemaKey d).1 := List.forall_mem_singleton.2 rfl
  cases hh : c.hash with
  | none =>
    -- the first sample since `Reset`: the only batch is empty and takes it
    obtain ⟨b0, hc, he, rfl⟩ := g.fresh hh
    obtain ⟨hib, hmb⟩ := g.inv b0 (by simp [hc])
    obtain ⟨hok, hsamples⟩ := Batch.add_empty b0 d hib he
    rw [Dynamic.add_first d hh hc]
    exact ⟨[] ++ [[d]], GD.snoc (init := []) g.pos (hrows := rfl) (hinv := by simp) (hone := by simp)
      (hb := ⟨Batch.add_inv b0 d hib, (Batch.add_maxSamples b0 d).trans hmb⟩) (hs := hsamples) (hk := hkd),
      by simp [hok]⟩
  | some hsh =>
    by_cases hk : hsh.1 = (schemaKey d).1
    · obtain ⟨init, lastB, hx⟩ : ∃ init lastB, c.chunks = init ++ [lastB] :=
        ⟨_, _, (List.dropLast_concat_getLast g.ne).symm⟩
      have hrows := g.rows
      rw [hx, List.map_append] at hrows
      obtain ⟨ginit, _, rfl, hrin, hl⟩ := List.append_eq_map_iff.1 hrows
      obtain ⟨glast, rfl, hrl⟩ := List.map_eq_singleton_iff.1 hl
      obtain ⟨hib, hmb⟩ := g.inv lastB (by simp [hx])
      rw [Dynamic.add_same d hh hk hx]
      by_cases hok : (lastB.add d).2 = .ok
      · refine ⟨ginit ++ [glast ++ [d]], ?_, by simp [hok]⟩
        rw [show c.hash = some hsh from hh]
        exact GD.snoc g.pos (hrows := hrin.symm) (hinv := (List.forall_mem_append.1 (hx ▸ g.inv)).1)
          (hone := (List.forall_mem_append.1 g.one).1)
          (hb := ⟨Batch.add_inv _ d hib, (Batch.add_maxSamples _ d).trans hmb⟩)
          (hs := by rw [Batch.add_ok_appends _ d hib hok, ← hrl]; simp [valsOf])
          (hk := List.forall_mem_append.2
            ⟨g.last hsh hh glast List.getLast?_concat, List.forall_mem_singleton.2 hk.symm⟩)
      · rw [Batch.add_rejected_noop lastB d hib hok, ← hx]
        exact ⟨_, g, by simp [hok]⟩
    · obtain ⟨hok, hsamples, hinv, hmax⟩ := Batch.add_new c.maxSamples g.pos d
      rw [Dynamic.add_other d hh hk]
      exact ⟨groups ++ [[d]], GD.snoc g.pos g.rows g.inv g.one (hb := ⟨hinv, hmax⟩) (hs := hsamples) (hk := hkd),
        by simp [hok]⟩

theorem gd_setMetadata (c : Dynamic) (groups : List (List BDoc)) (d : BDoc) (g : GD c groups) :
    GD (c.setMetadata d) groups := by
  unfold Dynamic.setMetadata
  cases hc : c.chunks with
  | nil => exact absurd hc g.ne
  | cons b r =>
    have hrows := g.rows
    have hfresh := g.fresh
    rw [hc] at hrows hfresh
    obtain ⟨⟨hib, hmb⟩, hinv⟩ := List.forall_mem_cons.1 (hc ▸ g.inv)
    obtain ⟨hi', hs'⟩ := C07.batch_setMetadata_inv b d hib
    refine {
      pos := g.pos
      rows := by simpa [hs'] using hrows
      inv := List.forall_mem_cons.2 ⟨⟨hi', (Batch.setMetadata_maxSamples b d).trans hmb⟩, hinv⟩
      one := g.one
      last := g.last
      fresh := ?_
      ne := by simp }
    intro hh
    obtain ⟨b0, h1, h2, h3⟩ := hfresh hh
    obtain ⟨rfl, rfl⟩ := List.cons.inj h1
    exact ⟨_, rfl, hs'.trans h2, h3⟩

theorem gd_new (n : Nat) (hn : 1 ≤ n) : GD (Dynamic.new n) [[]] where
  pos := hn
  rows := by simp [Dynamic.new, Batch.new_samples]
  inv := List.forall_mem_singleton.2 ⟨Batch.new_inv n hn, rfl⟩
  one := List.forall_mem_singleton.2 ⟨[], fun _ h => nomatch h⟩
  last := fun _ hh => nomatch hh
  fresh := fun _ => ⟨Batch.new n, rfl, Batch.new_samples n, rfl⟩
  ne := List.cons_ne_nil _ _

/-! ### the dynamic collector over whole histories -/

def addLogD (acc : Dynamic × List BDoc) (d : BDoc) : Dynamic × List BDoc :=
  let r := acc.1.add d
  (r.1, if r.2 = .ok then acc.2 ++ [d] else acc.2)

def stepD (acc : Dynamic × List BDoc) : COp → Dynamic × List BDoc
  | .add d => addLogD acc d
  | .reset => (acc.1.reset, [])
  | .setMeta d => (acc.1.setMetadata d, acc.2)
  | _ => acc

/-- **C07/C08 for the dynamic collector over whole histories** (Add, unreadable Add, Reset, SetMetadata, Resolve, Info
in any order): one batch collector per run of one schema key, together holding exactly the documents accepted since the
last `Reset`, once each and in order -/
theorem dynamic_faithful_all_histories (n : Nat) (hn : 1 ≤ n) (ops : List COp) :
    ∃ groups : List (List BDoc),
      let r := ops.foldl stepD (Dynamic.new n, [])
      r.1.chunks.map Batch.samples = groups.map (·.map valsOf) ∧ (∀ g ∈ groups, OneHash g) ∧
      groups.flatten = r.2 := by
  obtain ⟨groups, g, hf⟩ := List.foldlRecOn (motive := fun r => ∃ groups, GD r.1 groups ∧ groups.flatten = r.2) ops stepD
    (b := (Dynamic.new n, [])) ⟨[[]], gd_new n hn, rfl⟩ (by
      rintro ⟨c, acc⟩ ⟨groups, g, h⟩ op _
      cases op with
      | add d =>
        obtain ⟨groups', g', hf⟩ := gd_step c groups d g
        refine ⟨groups', g', ?_⟩
        show _ = (if (c.add d).2 = .ok then acc ++ [d] else acc)
        rw [hf, h]; split <;> simp
      | reset => exact ⟨[[]], gd_new c.maxSamples g.pos, rfl⟩
      | setMeta d => exact ⟨groups, gd_setMetadata c groups d g, h⟩
      | _ => exact ⟨groups, g, h⟩)
  exact ⟨groups, g.rows, g.one, hf⟩

/-- **Over every history of `Add`s no batch of the dynamic collector mixes two schemas, and the batches
together hold exactly the accepted samples, once each and in order**: batch `i` holds the value rows
of group `i`, every group has one hash input, and the groups concatenated are the accepted documents. -/
theorem dynamic_batches_have_one_schema (n : Nat) (hn : 1 ≤ n) (ds : List BDoc) :
    ∃ groups : List (List BDoc),
      let r := ds.foldl addLogD (Dynamic.new n, [])
      r.1.chunks.map Batch.samples = groups.map (·.map valsOf) ∧ (∀ g ∈ groups, OneHash g) ∧
      groups.flatten = r.2 := by
  have := dynamic_faithful_all_histories n hn (ds.map .add)
  simp only [List.foldl_map] at this
  exact this

/-! ### exact chunk boundaries over any sequence of schemas

The input is any list of runs `(head, tail)`; inside a run every document has the head's schema,
consecutive runs have different schema keys (`AdjDiff`).  `Chop`: Lemmas/ChopE2E. -/

/-- **the schema-aware streaming collector**: what reached the writer (`chs`) followed by the pending
chunk (`p`) is, run by run, each run cut at capacity -/
theorem streaming_dynamic_chunk_boundaries (n : Nat) (hn : 1 ≤ n) (s0 : BDoc × List BDoc)
    (segs : List (BDoc × List BDoc)) (hsim : ∀ s ∈ s0 :: segs, ∀ d ∈ s.2, SimDoc s.1 d) (hadj : AdjDiff (s0 :: segs)) :
    ∃ (chs : List (BDoc × List BDoc)) (p : BDoc × List BDoc) (groups : List (List (BDoc × List BDoc))),
      let c := (((s0 :: segs).flatMap chunkDocs).foldl (fun (c : StreamingDynamic) d => (c.add d).1)
        (StreamingDynamic.new n)).s
      logDocs c.out = chs.map mkChunk ∧ c.inner.resolve = some [mkChunk p] ∧
      chs ++ [p] = groups.flatten ∧ Chops n (s0 :: segs) groups := by
  obtain ⟨chs, p, groups, g, hfl, hch⟩ := sd_chops n hn s0 segs hsim hadj
  exact ⟨chs, p, groups, g.sg.logged, g.sg.pend.1.resolve, hfl, hch⟩

/-- **the dynamic collector**: one batch collector per run, and each of them resolves to its run cut at
capacity -/
theorem dynamic_chunk_boundaries (n : Nat) (hn : 1 ≤ n) (s0 : BDoc × List BDoc)
    (segs : List (BDoc × List BDoc)) (hsim : ∀ s ∈ s0 :: segs, ∀ d ∈ s.2, SimDoc s.1 d) (hadj : AdjDiff (s0 :: segs)) :
    (((s0 :: segs).flatMap chunkDocs).foldl (fun (c : Dynamic) d => (c.add d).1) (Dynamic.new n)).chunks =
      (s0 :: segs).map (batchOf n) ∧
    ∀ s ∈ s0 :: segs, ∃ g, Chop n s g ∧ (batchOf n s).resolve = some (g.map mkChunk) :=
  ⟨dynamic_runs n s0 segs hsim hadj, fun s hs => batch_chop n hn s (hsim s hs)⟩

/-! non-vacuity: three runs `{a}×2, {b}, {a}` satisfy the hypotheses -/
example : AdjDiff [(.cons [97] (.int64 5#64) .nil, [.cons [97] (.int64 6#64) .nil]),
                   (.cons [98] (.int64 5#64) .nil, []),
                   (.cons [97] (.int64 7#64) .nil, [])] := by
  simp [AdjDiff, HeadDiff, schemaKey, hashElems, hashVal]

end Ftdc.Props.C08
