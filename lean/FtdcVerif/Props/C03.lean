import FtdcVerif.Lemmas.Rle
import FtdcVerif.Model.Reader
import FtdcVerif.Model.Collector
import FtdcVerif.Lemmas.FileE2E
import FtdcVerif.Lemmas.PayloadTie
/-!
# C03 — wire-format conformance both ways

`Tok`/`expand`/`encToks` are the format description of the delta stream (written from the FTDC
format, not from the encoder): a stream is any sequence of non-zero literals and zero-run pairs
`(0, k)` standing for k+1 zeros; runs may be split and may cross metric boundaries.
`decoder_complete_deltas` shows that the decoder recovers the deltas of *every* such stream;
`encoder_stream_roundtrip` that the encoder's own stream is one of them.  The outer layers
(type field of any BSON number type, unknown types skipped, payload layout) follow.
-/
namespace Ftdc.Props.C03
open Ftdc

theorem decoder_complete_deltas : ∀ (ts : List Tok) (rest : Bytes), (∀ t ∈ ts, t.ok) →
    rleDecAux (expand ts).length 0 (encToks ts ++ rest) = some (expand ts, 0, rest) :=
  decode_toks

example : (Tok.lit 5#64).ok ∧ (Tok.run 3).ok := by
  constructor
  · show (5#64 : I64) ≠ 0#64; decide
  · show 3 < 2 ^ 64; decide

theorem split_run_same_deltas (a b : Nat) :
    expand [.run a, .run b] = expand [.run (a + b + 1)] := by
  simp only [expand, expandTok, List.map_cons, List.map_nil, List.flatten_cons, List.flatten_nil,
    List.append_nil]
  rw [List.replicate_append_replicate]
  congr 1; omega

theorem encoder_stream_roundtrip (ds : List I64) (rest : Bytes) (h : ds.length < 2 ^ 64) :
    rleDecAux ds.length 0 (rleEnc ds ++ rest) = some (ds, 0, rest) :=
  rle_roundtrip ds rest h

/-- no literal is zero and no zero run is directly followed by another one -/
def Canonical : List Tok → Prop
  | [] => True
  | [.lit d] => d ≠ 0#64
  | [.run _] => True
  | .lit d :: t :: r => d ≠ 0#64 ∧ Canonical (t :: r)
  | .run _ :: .run _ :: _ => False
  | .run _ :: .lit d :: r => Canonical (.lit d :: r)

theorem canon_lit_head (d : I64) (hd : d ≠ 0#64) : ∀ (r : List Tok), Canonical r → Canonical (.lit d :: r)
  | [], _ => hd
  | _ :: _, h => ⟨hd, h⟩

theorem canonAux_canonical (ds : List I64) (zc : Nat) : Canonical (canonAux zc ds) := by
  fun_induction canonAux zc ds with
  | case1 | case2 => trivial
  | case3 zc ds ih => exact ih
  | case4 zc d ds hd ih =>
    -- a literal in front keeps the list canonical, and so does a run in front of a literal
    have hl := canon_lit_head d hd _ ih
    split
    · exact hl
    · exact hl

/-- The delta stream `getPayload` writes is the canonical encoding: it is the byte rendering of a
token stream that denotes exactly the deltas, in which no literal is zero and no zero run is followed
by another zero run (every run is maximal, also across metric boundaries). -/
theorem encoder_is_canonical (ds : List I64) :
    rleEnc ds = encToks (canon ds) ∧ Canonical (canon ds) ∧ expand (canon ds) = ds := by
  refine ⟨encoder_emits_canon ds 0, canonAux_canonical ds 0, ?_⟩
  have := canonAux_expand ds 0
  simpa [canon] using this

/-- reference document verbatim, metric count, delta count, delta stream -/
theorem payload_layout (ref : BDoc) (first : Row) (rows : List Row) :
    ∃ stream, payloadOf ref first rows =
      serDoc ref ++ le32 first.length ++ le32 rows.length ++ stream := ⟨_, rfl⟩

/-- the encoder's output documents: optional metadata (type 0) then the chunk (type 1), both
stamped with the chunk's first time stamp -/
theorem output_documents (c : Better) (ref : BDoc) (hr : c.ref = some ref) :
    c.resolve = some (match c.metadata with
      | some md => [.metaDoc c.startedAt md, .chunk c.startedAt ref c.first c.rows]
      | none => [.chunk c.startedAt ref c.first c.rows]) := by
  unfold Better.resolve; simp only [hr]; cases c.metadata <;> rfl

/-- the doubles are 1.0, 0.0 and -0.0 -/
theorem type_field_any_number :
    isNum 1 (some (.int32 1#32)) = true ∧ isNum 1 (some (.int64 1#64)) = true ∧
    isNum 1 (some (.double 0x3FF0000000000000#64)) = true ∧
    isNum 0 (some (.int32 0#32)) = true ∧ isNum 0 (some (.int64 0#64)) = true ∧
    isNum 0 (some (.double 0#64)) = true ∧ isNum 0 (some (.double 0x8000000000000000#64)) = true := by
  decide

theorem unknown_type_skipped (inflate : Inflate) (doc : BDoc) (md : Option BDoc)
    (h0 : isNum 0 (lookupLast keyType doc) = false) (h1 : isNum 1 (lookupLast keyType doc) = false) :
    processDoc inflate doc md = .ok (md, none) := by
  simp [processDoc, h0, h1]

theorem metadata_document_only_sets_metadata (inflate : Inflate) (doc : BDoc) (md : Option BDoc)
    (h0 : isNum 0 (lookupLast keyType doc) = true) :
    processDoc inflate doc md = .ok (some doc, none) := by
  simp [processDoc, h0]

/-! `FileE2E.wireDoc`/`fileBytes`: the outer documents the collectors write, as BSON trees / bytes; `ZlibOK`:
`inflate (deflate p) = some (p, true)`. -/

/-- What the encoder writes is what the decoder reads: any list of output documents (metadata documents and
decodable chunks, in any order), serialised, is read by the reader model without error into exactly its chunks -
same reference documents, same samples, same order -/
theorem encoder_output_is_decoder_input (deflate : Bytes → Bytes) (inflate : Inflate)
    (hz : FileE2E.ZlibOK deflate inflate) (now : I64) (outs : List OutDoc)
    (hok : ∀ o ∈ outs, FileE2E.OutOK deflate now o) :
    (readAll inflate (FileE2E.fileBytes deflate now outs)).err = none ∧
    (readAll inflate (FileE2E.fileBytes deflate now outs)).chunks.map (fun c => (c.ref, c.rows)) =
      outs.filterMap FileE2E.chunkPart :=
  FileE2E.file_roundtrip deflate inflate hz now outs hok

theorem data_field_is_wellformed_binary (z : Bytes) (h : z.length < 2 ^ 31) : OtherOk 0x05 (FileE2E.binaryRaw z) :=
  FileE2E.binary_otherOk z h

/-- non-vacuity: the assumption about zlib is met by "stored" compression, and the hypotheses about the documents by a
metadata document followed by a chunk -/
example : FileE2E.ZlibOK id (fun z => some (z, true)) := fun _ => rfl
example : ∀ o ∈ [OutDoc.metaDoc .none .nil, .chunk (.at 5#64) (.cons [97] (.int64 1#64) .nil) [1#64] []],
    FileE2E.OutOK id 0#64 o := by
  intro o ho
  simp only [List.mem_cons, List.mem_nil_iff, or_false] at ho
  rcases ho with rfl | rfl
  · refine ⟨trivial, ?_, trivial⟩
    simp [FileE2E.wireDoc, FileE2E.idMs, serDoc_length, serElems, serVal, le64_length, le32_length, BVal.tag, keyId, keyType,
      FileE2E.keyDoc]
  · refine ⟨⟨⟨⟨by intro b hb; simp at hb; omega, trivial, trivial⟩,
        by simp [serDoc_length, serElems, serVal, le64_length, BVal.tag], by simp [NoTs, NoTsVal],
        by simp [extractDoc, extractVal]⟩, by simp [vals, extractDoc, extractVal], by simp, by simp⟩, ?_, trivial⟩
    simp [FileE2E.wireDoc, FileE2E.idMs, FileE2E.binaryRaw, serDoc_length, serElems, serVal, le64_length, le32_length, BVal.tag,
      keyId, keyType, keyData, payloadOf, rleEnc, rleEncAux, column, deltas]

/-- A retyped sample is refused: same number of metrics, another BSON type at some metric position (a chunk records each
metric's type once, in its reference document) — the collector answers `types` and is unchanged. -/
theorem retyped_sample_refused (c : Better) (d r : BDoc) (hr : c.ref = some r)
    (hroom : c.rows.length < c.maxDeltas) (hlen : (extractDoc d).length = c.last.length)
    (hty : (extractDoc d).map (·.2) ≠ c.last.map (·.2)) :
    c.add d = (c, .types) := by
  unfold Better.add
  simp only [hr]
  rw [if_neg (by omega), if_neg (by simpa using hlen), if_pos hty]

/-- and what is accepted into an open chunk has exactly the chunk's metric types, position by position -/
theorem accepted_sample_has_chunk_types (c : Better) (d r : BDoc) (hr : c.ref = some r)
    (hok : (c.add d).2 = .ok) :
    (extractDoc d).map (·.2) = c.last.map (·.2) ∧ (extractDoc d).length = c.last.length := by
  -- `hr`: without an open chunk any sample is accepted and becomes the reference; with one, `.ok` is returned only past
  -- the length test and the type test
  revert hok
  fun_cases Better.add c d <;> simp_all +zetaDelta

/-! `Gen.Better.getPayload_region`: its `payload` is the list of values handed to `encodeValue`; `emitBytes` is their varint
encoding. -/

/-- The Go encoder loop emits the model's zero-run stream of the metric-major cells of the delta table, for every
table, every size (`hsz`: the pending-zero counter is an `int64` and can reach the number of cells) -/
theorem go_encoder_loop_is_model (ds : List Int) (md : Int) (ns nm : Nat)
    (hr : ∀ x ∈ ds, -2 ^ 63 ≤ x ∧ x < 2 ^ 63) (hsz : nm * ns < 2 ^ 63) :
    PayloadTie.emitBytes (Gen.Better.getPayload_region ds md (ns : Int) (nm : Int) [])
      = rleEnc ((PayloadTie.rows ds md ns 0 nm).map (BitVec.ofInt 64)) :=
  PayloadTie.getPayload_region_is_rleEnc ds md ns nm hr hsz

/-- hence the stream the Go loop writes is a spec-conformant token stream, in canonical form, that expands to the cells.
The term spelt out three times is that token stream: `(PayloadTie.rows ds md ns 0 nm).map (BitVec.ofInt 64)` are the cells
of the delta table as `int64`s, metric by metric, and `canonAux 0` of them is their `canon`. -/
theorem go_encoder_loop_conformant (ds : List Int) (md : Int) (ns nm : Nat)
    (hr : ∀ x ∈ ds, -2 ^ 63 ≤ x ∧ x < 2 ^ 63) (hsz : nm * ns < 2 ^ 63) :
    PayloadTie.emitBytes (Gen.Better.getPayload_region ds md (ns : Int) (nm : Int) [])
        = encToks (canonAux 0 ((PayloadTie.rows ds md ns 0 nm).map (BitVec.ofInt 64))) ∧
      Canonical (canonAux 0 ((PayloadTie.rows ds md ns 0 nm).map (BitVec.ofInt 64))) ∧
      expand (canonAux 0 ((PayloadTie.rows ds md ns 0 nm).map (BitVec.ofInt 64)))
        = (PayloadTie.rows ds md ns 0 nm).map (BitVec.ofInt 64) := by
  refine ⟨?_, canonAux_canonical _ 0, ?_⟩
  · rw [go_encoder_loop_is_model ds md ns nm hr hsz, rleEnc, encoder_emits_canon]
  · simpa using canonAux_expand ((PayloadTie.rows ds md ns 0 nm).map (BitVec.ofInt 64)) 0

/-- The model's payload is the payload with the Go loop in it, whenever the collector's delta table holds the
per-metric deltas of the samples (`TableHolds`: cell (i, j) of `c.deltas` = j-th delta of metric i) -/
theorem go_payload_is_model_payload (ref : BDoc) (first : Row) (rws : List Row) (ds : List Int) (md : Int)
    (h : PayloadTie.TableHolds ds md first rws) (hr : ∀ x ∈ ds, -2 ^ 63 ≤ x ∧ x < 2 ^ 63)
    (hsz : first.length * rws.length < 2 ^ 63) :
    payloadOf ref first rws
      = serDoc ref ++ le32 first.length ++ le32 rws.length
          ++ PayloadTie.emitBytes (Gen.Better.getPayload_region ds md (rws.length : Int) (first.length : Int) []) :=
  PayloadTie.payloadOf_is_go_loop ref first rws ds md h hr hsz

/-- non-vacuity and a run of the generated definition: metrics (5, 5, 5) and (1, 1, 4) after the reference sample:
deltas 0 0 | 0 3 with row length 4 — one run of three zeros across the metric boundary, then the literal -/
example : Gen.Better.getPayload_region [0, 0, 9, 9, 0, 3, 9, 9] 4 2 2 [] = [0, 2, 3] := by decide
example : PayloadTie.TableHolds [0, 0, 9, 9, 0, 3, 9, 9] 4 [5#64, 1#64] [[5#64, 1#64], [5#64, 4#64]] := by
  unfold PayloadTie.TableHolds
  decide

end Ftdc.Props.C03
