import FtdcVerif.Lemmas.Pipeline
/-!
# C05 — a decoding error is never lost, whatever the goroutine schedule

`Pipeline` is the transition system of `ReadChunks`: the two producer goroutines and the
consumer, with the order of "record the error" and "close the channel" as program text.
`err_never_lost` quantifies over every input (any length, any failure location) and every schedule
(any list of scheduler choices; a blocked choice is a no-op, so every interleaving of enabled steps
is some schedule).  The document, matrix and series iterators repeat the same close-after-add
shape one layer up: `layer_above` states that composition as an implication between flags,
`UpperLayer.upper_layer_err_never_lost` proves it of the worker as a transition system of its own.
-/
namespace Ftdc.Props.C05
open Ftdc.Pipeline

/-- Err is non-nil once Next has returned false, for every failing input and every schedule
(repaired ordering: the error is recorded before the channel is closed) -/
theorem err_never_lost (items : List Item) (sched : List Pid)
    (hfail : Fails items = true)
    (hnocancel : (run (init true items) sched).cancelled = false)
    (hfalse : (run (init true items) sched).sawFalse = true) :
    (run (init true items) sched).errSeen = true :=
  (run_inv (Fails items) sched _ (init_inv items)).seen hfalse hfail hnocancel

/-- Finding F6: with the pinned commit's ordering (close in a defer, add afterwards) there is
a schedule on which the consumer sees `Next() == false` and `Err() == nil` for a failing input -/
theorem err_lost_before_fix :
    ∃ (items : List Item) (sched : List Pid),
      Fails items = true ∧ (run (init false items) sched).cancelled = false ∧
      (run (init false items) sched).sawFalse = true ∧ (run (init false items) sched).errSeen = false :=
  ⟨[.cut], [.d, .d, .c, .c, .u], by decide⟩

/-- the same for a decoding error in the second goroutine -/
theorem err_lost_before_fix_decode :
    ∃ (sched : List Pid),
      (run (init false [.bad]) sched).sawFalse = true ∧ (run (init false [.bad]) sched).errSeen = false :=
  ⟨[.d, .d, .c, .c, .u], by decide⟩

/-- why `err_never_lost` speaks of runs without cancellation, and what goes wrong if a goroutine
cancels the shared context BEFORE it registers its error (`seeded/agent3-C05`): the other
goroutine leaves through its `ctx.Done()` arm, closes the pipe, and the consumer sees `false` while
the error is not registered yet -/
theorem cancel_before_registration_loses_error :
    ∃ (sched : List Pid),
      (run (init true [.good, .good, .good, .cut]) sched).dFailed = true ∧
      (run (init true [.good, .good, .good, .cut]) sched).sawFalse = true ∧
      (run (init true [.good, .good, .good, .cut]) sched).errSeen = false :=
  ⟨[.d, .d, .c, .c, .d, .d, .c, .c, .d, .d, .c, .d, .cancel, .c, .c, .c, .u, .u, .u], by decide⟩

/-- A layer above: a worker that, after the lower iterator's `Next()` returned false, records
the lower `Err()` and only then closes its own channel hands the error on: if the lower layer
guarantees "false ⇒ error visible", so does the upper one.  (`lowerErr` is what `chunks.Err()`
returned, `recorded` what the worker added.) -/
theorem layer_above (lowerFalse lowerErr recorded upperClosed upperSeen : Bool)
    (hlower : lowerFalse = true → lowerErr = true)           -- guarantee of the layer below
    (hworker : upperClosed = true → lowerFalse = true ∧ recorded = lowerErr)   -- close only after add
    (hconsumer : upperSeen = recorded) (hc : upperClosed = true) : upperSeen = true := by
  obtain ⟨h1, h2⟩ := hworker hc
  rw [hconsumer, h2]; exact hlower h1

/-- errors recorded by different goroutines are both retained, and stay (the catcher only grows):
in every reachable state, an error that is in the catcher is still in it after any step -/
theorem errors_retained (items : List Item) (sched : List Pid) (p : Pid) (s' : St)
    (hs : step (run (init true items) sched) p = some s') :
    ((run (init true items) sched).dErrIn = true → s'.dErrIn = true) ∧
    ((run (init true items) sched).cErrIn = true → s'.cErrIn = true) :=
  flags_monotone (Fails items) _ p s' (run_inv (Fails items) sched _ (init_inv items)) hs

/-! non-vacuity: a failing input, a full schedule, the consumer reaches false and sees the error -/
example : (run (init true [.good, .bad]) [.d, .d, .c, .c, .u, .d, .d, .c, .c, .c, .u]).sawFalse = true ∧
          (run (init true [.good, .bad]) [.d, .d, .c, .c, .u, .d, .d, .c, .c, .c, .u]).errSeen = true := by decide

end Ftdc.Props.C05

/-! ## a layer above, as a transition system

The document, matrix and series iterators run one worker that, when the iterator below has ended,
records the lower `Err()` in its own catcher and closes its own pipe — in that order (`addFirst`;
the other order is the pinned commit's matrix worker, `seeded/seed-C05-matrix-defer-order`).
The consumer of the layer sees `Next() == false` when the pipe is closed and then reads `Err()`. -/
namespace Ftdc.Props.C05.UpperLayer

inductive WPc where
  | running | adding | closing | done
  deriving DecidableEq, Repr

structure St where
  addFirst : Bool
  lowerErr : Bool              -- what `chunks.Err()` returns once the layer below has ended (its own theorem)
  wpc : WPc := .running
  errIn : Bool := false        -- the worker's catcher holds the lower error
  pipeClosed : Bool := false
  sawFalse : Bool := false
  errSeen : Bool := false
  deriving DecidableEq, Repr

inductive Pid where
  | w | u
  deriving DecidableEq, Repr

def step (s : St) : Pid → Option St
  | .w =>
    match s.wpc with
    | .running => some { s with wpc := if s.addFirst then .adding else .closing }   -- the lower iterator has ended
    | .adding => some { s with errIn := s.lowerErr, wpc := if s.addFirst then .closing else .done }
    | .closing => some { s with pipeClosed := true, wpc := if s.addFirst then .done else .adding }
    | .done => none
  | .u => if s.pipeClosed ∧ !s.sawFalse then some { s with sawFalse := true, errSeen := s.errIn } else none

def run (s : St) (sched : List Pid) : St := sched.foldl (fun s p => (step s p).getD s) s

/-- with the repaired order the pipe is closed only after the error has been recorded
(`e` = what the layer below reports; no step changes it) -/
structure Inv (e : Bool) (s : St) : Prop where
  af : s.addFirst = true
  lower : s.lowerErr = e
  closed_registered : s.pipeClosed = true → s.errIn = e
  seen : s.sawFalse = true → s.errSeen = e
  registered : s.wpc = .closing ∨ s.wpc = .done → s.errIn = e

theorem step_inv (e : Bool) (s : St) (p : Pid) (s' : St) (h : Inv e s) (hs : step s p = some s') : Inv e s' := by
  revert hs
  fun_cases step s p <;> intro hs <;> cases hs
  next =>  -- the lower iterator has ended
    exact { h with registered := by simp [h.af] }
  next =>  -- the worker records the lower error
    exact { h with closed_registered := fun _ => h.lower, registered := fun _ => h.lower }
  next hw =>  -- and only then closes its pipe
    have hr := h.registered (.inl hw)
    exact { h with closed_registered := fun _ => hr, registered := fun _ => hr }
  next hc =>  -- the consumer finds the pipe closed and reads `Err()`
    exact { h with seen := fun _ => h.closed_registered hc.1 }

/-- On every schedule of the worker and the consumer: once `Next()` has returned false, the layer's
`Err()` is what the layer below reported — so a non-nil error below is a non-nil error above. -/
theorem upper_layer_err_never_lost (lowerErr : Bool) (sched : List Pid) :
    let s := run { addFirst := true, lowerErr := lowerErr } sched
    s.sawFalse = true → s.errSeen = lowerErr :=
  (Sched.foldl_inv (step_inv lowerErr) sched { addFirst := true, lowerErr := lowerErr }
    ⟨rfl, rfl, by simp, by simp, by simp⟩).seen

/-- with the other order (close, then record) the error is lost on a three-step schedule -/
theorem upper_layer_err_lost_if_closed_first :
    (run { addFirst := false, lowerErr := true } [.w, .w, .u]).sawFalse = true ∧
    (run { addFirst := false, lowerErr := true } [.w, .w, .u]).errSeen = false := by decide

end Ftdc.Props.C05.UpperLayer
