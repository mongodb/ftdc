import FtdcVerif.Model.Genny
/-!
# C20 — Genny translation emits one sample per second drawn only from actors' own data

For every list of actors (any number, any spans, any chunking of their streams): exactly one
output sample per second of the overall span with start stamps one second apart; one
sub-document per actor in input order; the values one call of `nextWindow` returns are those of
one of the actor's own input samples (`nextWindow_own`; no theorem states it of `stepActor` or of
the loop, see `Legit`).  The chunk bound is the streaming collector's capacity 300 (C07).
-/
namespace Ftdc.Props.C20
open Ftdc.Genny

theorem stepSecond_shape (t : Int) (actors : List Actor) :
    (stepSecond t actors).2.start = t * 1000 ∧ (stepSecond t actors).1.length = actors.length ∧
    (stepSecond t actors).2.actors.length = actors.length := by
  simp [stepSecond]

/-- the actor states after `k` seconds of the main loop (what `loopSeconds` threads through) -/
def statesAfter : Nat → Int → List Actor → List Actor
  | 0, _, as => as
  | k + 1, t, as => statesAfter k (t + 1) (stepSecond t as).1

theorem statesAfter_inv {P : List Actor → Prop} (hstep : ∀ t as, P as → P (stepSecond t as).1) :
    ∀ (k : Nat) (t : Int) (as : List Actor), P as → P (statesAfter k t as)
  | 0, _, _, h => h
  | k + 1, t, as, h => statesAfter_inv hstep k (t + 1) _ (hstep t as h)

/-- The main loop in closed form: second `k` of the output is the step from the states after `k`
seconds; every theorem about `loopSeconds` below reads its clause off this -/
theorem loopSeconds_eq (fuel : Nat) (t stop : Int) (as : List Actor) :
    loopSeconds fuel t stop as = (List.range (min fuel (stop - t).toNat)).map
      fun (k : Nat) => (stepSecond (t + (k : Int)) (statesAfter k t as)).2 := by
  fun_induction loopSeconds fuel t stop as with
  | case1 => simp
  | case2 f t stop as h r ih =>
    -- `m + 1` seconds are left, `m` after this one
    obtain ⟨m, hm⟩ := Int.eq_succ_of_zero_lt (Int.sub_pos_of_lt h)
    have hm' : stop - (t + 1) = m := by rw [← Int.sub_sub, hm, Int.add_sub_cancel]
    rw [hm', Int.toNat_natCast] at ih
    rw [hm, Int.toNat_natCast_add_one, Nat.succ_min_succ, List.range_succ_eq_map, ih]
    simp only [List.map_cons, List.map_map, statesAfter, List.cons.injEq]
    refine ⟨by simp [r], List.map_congr_left fun k _ => ?_⟩
    -- second `k` of the rest is second `k + 1` of the whole
    have ht : t + 1 + (k : Int) = t + ((k + 1 : Nat) : Int) := by
      rw [Int.natCast_succ, Int.add_assoc, Int.add_comm 1]
    rw [ht]
    rfl
  | case3 f t stop as h =>
    simp [(Int.toNat_sub_eq_zero_iff stop t).2 (Int.not_lt.1 h)]

/-- the same, entry by entry -/
theorem loopSeconds_states : ∀ (fuel : Nat) (t stop : Int) (as : List Actor) (k : Nat),
    k < (loopSeconds fuel t stop as).length →
    (loopSeconds fuel t stop as)[k]? = some (stepSecond (t + k) (statesAfter k t as)).2 := by
  intro fuel t stop as k hk
  rw [loopSeconds_eq] at hk ⊢
  rw [List.length_map, List.length_range] at hk
  rw [List.getElem?_map, List.getElem?_range hk, Option.map_some]

theorem mem_loopSeconds {fuel : Nat} {t stop : Int} {as : List Actor} {o : OutSample}
    (h : o ∈ loopSeconds fuel t stop as) : ∃ k : Nat, o = (stepSecond (t + (k : Int)) (statesAfter k t as)).2 := by
  rw [loopSeconds_eq, List.mem_map] at h
  obtain ⟨k, -, rfl⟩ := h
  exact ⟨k, rfl⟩

/-- Exactly one sample for each second of the span.  `Genny.translate` calls the loop with `fuel = (stop - start).toNat`,
which meets the hypothesis with equality. -/
theorem one_sample_per_second : ∀ (fuel : Nat) (t stop : Int) (as : List Actor),
    (stop - t).toNat ≤ fuel → (loopSeconds fuel t stop as).length = (stop - t).toNat := by
  intro fuel t stop as h
  rw [loopSeconds_eq, List.length_map, List.length_range]
  exact Nat.min_eq_right h

/-- start stamps strictly increasing, one second apart, from the workload start -/
theorem starts_one_second_apart : ∀ (fuel : Nat) (t stop : Int) (as : List Actor) (i : Nat),
    i < (loopSeconds fuel t stop as).length →
    ((loopSeconds fuel t stop as).getD i ⟨0, []⟩).start = (t + i) * 1000 := by
  intro fuel t stop as i h
  rw [List.getD_eq_getElem?_getD, loopSeconds_states fuel t stop as i h]
  exact (stepSecond_shape _ _).1

theorem one_subdocument_per_actor : ∀ (fuel : Nat) (t stop : Int) (as : List Actor),
    ∀ o ∈ loopSeconds fuel t stop as, o.actors.length = as.length := by
  intro fuel t stop as o h
  obtain ⟨k, rfl⟩ := mem_loopSeconds h
  rw [(stepSecond_shape _ _).2.2]
  exact statesAfter_inv (P := fun l => l.length = as.length)
    (fun t l hl => by rw [(stepSecond_shape t l).2.1, hl]) k t as rfl

theorem ensureChunk_name (a : Actor) : a.ensureChunk.name = a.name := by
  unfold Actor.ensureChunk; split <;> rfl

theorem nextWindow_name : ∀ (fuel : Nat) (a : Actor), (nextWindow fuel a).1.name = a.name := by
  intro fuel a
  fun_induction nextWindow fuel a <;> simp_all [ensureChunk_name, Actor.pick, Actor.advance]

theorem stepActor_name (t : Int) (a : Actor) :
    (stepActor t a).1.name = a.name ∧ (stepActor t a).2.1 = a.name := by
  unfold stepActor
  split
  · have hn := nextWindow_name (a.rest.length + 2) a
    split
    · rename_i a' vals heq; rw [heq] at hn; exact ⟨hn, rfl⟩
    · rename_i a' heq; rw [heq] at hn; exact ⟨hn, rfl⟩
  · exact ⟨rfl, rfl⟩

theorem stepSecond_names (t : Int) (as : List Actor) :
    (stepSecond t as).2.actors.map (·.1) = as.map (·.name) ∧
    (stepSecond t as).1.map (·.name) = as.map (·.name) := by
  simp only [stepSecond, List.map_map]
  constructor <;> (apply List.map_congr_left; intro a _; simp [Function.comp, stepActor_name])

theorem subdocuments_in_input_order : ∀ (fuel : Nat) (t stop : Int) (as : List Actor),
    ∀ o ∈ loopSeconds fuel t stop as, o.actors.map (·.1) = as.map (·.name) := by
  intro fuel t stop as o h
  obtain ⟨k, rfl⟩ := mem_loopSeconds h
  rw [(stepSecond_names _ _).1]
  exact statesAfter_inv (P := fun l => l.map (·.name) = as.map (·.name))
    (fun t l hl => by rw [(stepSecond_names t l).2, hl]) k t as rfl

theorem findWindow_go_first (prev : Int) (c : List Sample) (i : Nat) (r : Nat × Sample) :
    findWindow.go prev i c = some r →
      ∃ n, r.1 = i + n ∧ c[n]? = some r.2 ∧ ceilSec r.2.ts ≠ prev ∧
        ∀ j, j < n → ∃ s, c[j]? = some s ∧ ceilSec s.ts = prev := by
  fun_induction findWindow.go prev i c
  case case1 => nofun
  case case2 i s rest hne =>
    rintro ⟨⟩
    exact ⟨0, rfl, rfl, hne, nofun⟩
  case case3 i s rest heq ih =>
    intro h
    obtain ⟨n, h1, h2, h3, h4⟩ := ih h
    refine ⟨n + 1, by rw [h1, Nat.add_assoc, Nat.add_comm 1], h2, h3, fun j hj => ?_⟩
    cases j with
    | zero => exact ⟨s, rfl, Decidable.of_not_not heq⟩
    | succ j => exact h4 j (Nat.lt_of_succ_lt_succ hj)

/-- `findWindow` selects the first sample, at or after the previous position, whose wall-clock
second differs from the previous one: every sample it skips lies in the previous second -/
theorem findWindow_first (c : GChunk) (from_ : Nat) (prev : Int) (i : Nat) (s : Sample)
    (h : findWindow c from_ prev = some (i, s)) :
    from_ ≤ i ∧ c[i]? = some s ∧ ceilSec s.ts ≠ prev ∧
    ∀ j, from_ ≤ j → j < i → ∃ s', c[j]? = some s' ∧ ceilSec s'.ts = prev := by
  obtain ⟨n, h1, h2, h3, h4⟩ := findWindow_go_first prev (c.drop from_) from_ (i, s) h
  simp only [List.getElem?_drop] at h1 h2 h4
  subst h1
  refine ⟨Nat.le_add_right _ _, h2, h3, fun j hj1 hj2 => ?_⟩
  obtain ⟨d, rfl⟩ := Nat.exists_eq_add_of_le hj1
  exact h4 d (Nat.lt_of_add_lt_add_left hj2)

/-- all samples an actor can still deliver -/
def pool (a : Actor) : List Sample := (a.cur.toList ++ a.rest).flatten

/-- the values an actor may legitimately emit: zeros, or the values of one of its own samples.  A specification only:
no theorem is stated with it (`nextWindow_own` is about one call of `nextWindow`, not about what `stepActor` emits). -/
def Legit (p : List Sample) (vals : List Int) : Prop :=
  vals = List.replicate 8 0 ∨ ∃ s ∈ p, s.vals = vals

theorem findWindow_mem (c : GChunk) (from_ : Nat) (prev : Int) (r : Nat × Sample)
    (h : findWindow c from_ prev = some r) : r.2 ∈ c :=
  List.mem_of_getElem? (findWindow_first c from_ prev r.1 r.2 h).2.1

theorem ensureChunk_pool (a : Actor) : pool a.ensureChunk = pool a := by
  unfold Actor.ensureChunk pool
  split
  next hc hr => rw [hc, hr]; rfl
  next => rfl

/-- what `translateAtNextWindow` returns is the values of a sample of the actor's own pool -/
theorem nextWindow_own : ∀ (fuel : Nat) (a : Actor) (vals : List Int),
    (nextWindow fuel a).2 = some vals → ∃ s ∈ pool a, s.vals = vals := by
  intro fuel a vals
  rw [← ensureChunk_pool a]
  fun_induction nextWindow fuel a
  case case1 => nofun
  case case2 => nofun
  case case3 c hc i s hf =>
    intro h; cases h
    exact ⟨s, by simp [pool, hc, findWindow_mem c _ _ (i, s) hf], rfl⟩
  case case4 c hc _ c' r hr ih =>
    intro h
    obtain ⟨s, hs, hv⟩ := ih h
    rw [ensureChunk_pool] at hs
    refine ⟨s, ?_, hv⟩
    simp only [pool, Actor.advance, hc, hr, Option.toList_some, List.singleton_append, List.flatten_cons,
      List.mem_append] at hs ⊢
    exact .inr hs
  case case5 => nofun

/-- lexicographic order on (chunk number, index) -/
def PosLe (a b : Nat × Nat) : Prop := a.1 < b.1 ∨ (a.1 = b.1 ∧ a.2 ≤ b.2)

/-- the second clause makes the first inductive: what a pick appends is the cursor -/
def Mono (a : Actor) : Prop :=
  a.picks.Pairwise PosLe ∧ ∀ p ∈ a.picks, PosLe p (a.chunkNo, a.prevIdx)

theorem posLe_trans {a b c : Nat × Nat} (h1 : PosLe a b) (h2 : PosLe b c) : PosLe a c := by
  rcases h1 with h1 | ⟨e1, l1⟩ <;> rcases h2 with h2 | ⟨e2, l2⟩
  · exact .inl (Nat.lt_trans h1 h2)
  · exact .inl (e2 ▸ h1)
  · exact .inl (e1 ▸ h2)
  · exact .inr ⟨e1.trans e2, Nat.le_trans l1 l2⟩

theorem mono_ensureChunk (a : Actor) (h : Mono a) : Mono a.ensureChunk := by
  unfold Actor.ensureChunk
  split <;> exact h

/-- The loop changes an actor's cursor `(chunkNo, prevIdx)` and its record in one way: the cursor does not move
backwards, and the record stays as it is or gains the new cursor. -/
theorem Mono.step {a a' : Actor} (h : Mono a) (hc : PosLe (a.chunkNo, a.prevIdx) (a'.chunkNo, a'.prevIdx))
    (hp : a'.picks = a.picks ∨ a'.picks = a.picks ++ [(a'.chunkNo, a'.prevIdx)]) : Mono a' := by
  have hle : ∀ p ∈ a.picks, PosLe p (a'.chunkNo, a'.prevIdx) := fun p hp => posLe_trans (h.2 p hp) hc
  rcases hp with e | e <;> rw [Mono, e]
  · exact ⟨h.1, hle⟩
  · exact ⟨List.pairwise_append.2
        ⟨h.1, List.pairwise_singleton _ _, fun x hx => List.forall_mem_singleton.2 (hle x hx)⟩,
      List.forall_mem_append.2 ⟨hle, List.forall_mem_singleton.2 (.inr ⟨rfl, Nat.le_refl _⟩)⟩⟩

theorem mono_nextWindow (fuel : Nat) (a : Actor) (h : Mono a) : Mono (nextWindow fuel a).1 := by
  fun_induction nextWindow fuel a
  case case1 => exact h
  case case2 => exact mono_ensureChunk _ h
  case case3 c hc i s hf =>  -- a pick: the cursor moves to the index found, which is recorded
    exact (mono_ensureChunk _ h).step (.inr ⟨rfl, (findWindow_first c _ _ i s hf).1⟩) (.inr rfl)
  case case4 ih =>  -- the next chunk: nothing is recorded
    exact ih ((mono_ensureChunk _ h).step (.inl (Nat.lt_succ_self _)) (.inl rfl))
  case case5 => exact mono_ensureChunk _ h

theorem mono_stepActor (t : Int) (a : Actor) (h : Mono a) : Mono (stepActor t a).1 := by
  unfold stepActor
  split
  · have := mono_nextWindow (a.rest.length + 2) a h
    split <;> simp_all
  · exact h

theorem mono_stepSecond (t : Int) (as : List Actor) (h : ∀ a ∈ as, Mono a) :
    ∀ a ∈ (stepSecond t as).1, Mono a := by
  intro a ha
  simp only [stepSecond, List.map_map, List.mem_map, Function.comp] at ha
  obtain ⟨a0, h0, rfl⟩ := ha
  exact mono_stepActor t a0 (h a0 h0)

/-- Selected positions never move backwards: after any number of seconds of the main loop the
positions (chunk number, index) every actor has selected so far are non-decreasing, for actors
that start with nothing selected. -/
theorem picks_never_move_backwards (as : List Actor) (h0 : ∀ a ∈ as, a.picks = []) :
    ∀ (k : Nat) (t : Int), ∀ a ∈ statesAfter k t as, a.picks.Pairwise PosLe := fun k t a ha =>
  (statesAfter_inv (P := fun l => ∀ a ∈ l, Mono a) mono_stepSecond k t as
    (fun a ha => by simp [Mono, h0 a ha]) a ha).1

example : (translate [{ name := "a", rest := [[⟨1500, [1,1,1,0,5,5,1,0]⟩, ⟨2500, [2,2,2,0,9,9,1,0]⟩]],
                        startTime := 2, endTime := 4 }]).length = 2 := by decide

end Ftdc.Props.C20
