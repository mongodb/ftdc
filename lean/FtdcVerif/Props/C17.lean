import FtdcVerif.Lemmas.UStreamSteps
/-!
# C17 — uncompressed collectors emit exactly the samples given, in one stable encoding

In the model an uncompressed collector's output is a list of *documents*; the flavour (BSON
bytes, or one Extended-JSON line) is a rendering applied to each document of that list and is
fixed at construction — there is no state that could change it (the unrepaired
streaming-dynamic `Reset` rebuilt the wrapped collector as a compressing one: finding F16; the
model's `reset` keeps `inner`).  The theorems show that the list is exact.
-/
namespace Ftdc.Props.C17
open Ftdc

/-- output = metadata (if set) followed by every held sample, in order, and nothing else -/
theorem output_exact (c : Uncompressed) (h : c.samples ≠ []) :
    c.resolve = some (c.metadata.toList ++ c.samples) := by
  unfold Uncompressed.resolve
  rw [if_neg h]

theorem no_samples_no_output (c : Uncompressed) (h : c.samples = []) : c.resolve = none := by
  simp [Uncompressed.resolve, h]

def Inv (c : Uncompressed) : Prop :=
  (c.metricCount = 0 → c.samples = []) ∧ c.samples.length ≤ c.batchSize ∧
  (∀ d ∈ c.samples, d.length = c.metricCount)

theorem add_cases (c : Uncompressed) (d : BDoc) :
    (d.length ≠ (if c.metricCount = 0 then d.length else c.metricCount) ∧
      c.add d = ({ c with metricCount := if c.metricCount = 0 then d.length else c.metricCount }, .schema)) ∨
    (d.length = (if c.metricCount = 0 then d.length else c.metricCount) ∧ c.samples.length ≥ c.batchSize ∧
      c.add d = ({ c with metricCount := if c.metricCount = 0 then d.length else c.metricCount }, .overfull)) ∨
    (d.length = (if c.metricCount = 0 then d.length else c.metricCount) ∧ c.samples.length < c.batchSize ∧
      c.add d = ({ c with metricCount := (if c.metricCount = 0 then d.length else c.metricCount),
                          samples := c.samples ++ [d] }, .ok)) := by
  fun_cases Uncompressed.add c d
  · exact .inl ⟨‹_›, rfl⟩
  · exact .inr (.inl ⟨Decidable.not_not.mp ‹_›, ‹_›, rfl⟩)
  · exact .inr (.inr ⟨Decidable.not_not.mp ‹_›, Nat.lt_of_not_ge ‹_›, rfl⟩)

theorem add_ok_appends (c : Uncompressed) (d : BDoc) (h : (c.add d).2 = .ok) :
    (c.add d).1.samples = c.samples ++ [d] := by
  rcases add_cases c d with ⟨_, he⟩ | ⟨_, _, he⟩ | ⟨_, _, he⟩
  · rw [he] at h; cases h
  · rw [he] at h; cases h
  · rw [he]

/-- a rejected `Add` (field count, batch size) changes nothing -/
theorem add_rejected_noop (c : Uncompressed) (d : BDoc) (hi : Inv c) (hb : 1 ≤ c.batchSize)
    (h : (c.add d).2 ≠ .ok) : (c.add d).1 = c := by
  -- a collector that has forgotten its field count is empty and refuses nothing: in both refusals the count stays
  rcases add_cases c d with ⟨h1, he⟩ | ⟨_, h2, he⟩ | ⟨_, _, he⟩ <;> rw [he] at h ⊢
  · have h0 : c.metricCount ≠ 0 := fun h0 => h1 (by rw [if_pos h0])
    simp only [if_neg h0]
  · have h0 : c.metricCount ≠ 0 := fun h0 => by
      rw [hi.1 h0] at h2; exact Nat.not_succ_le_zero _ (Nat.le_trans hb h2)
    simp only [if_neg h0]
  · exact absurd rfl h

theorem add_bound (c : Uncompressed) (d : BDoc) (h : c.samples.length ≤ c.batchSize) :
    (c.add d).1.samples.length ≤ (c.add d).1.batchSize ∧ (c.add d).1.batchSize = c.batchSize := by
  rcases add_cases c d with ⟨_, he⟩ | ⟨_, _, he⟩ | ⟨_, h2, he⟩ <;> rw [he] <;> simp <;> omega

theorem add_inv (c : Uncompressed) (d : BDoc) (hd : 0 < d.length) (hi : Inv c) : Inv (c.add d).1 := by
  obtain ⟨hempty, hlen, hwidth⟩ := hi
  -- the field count after `Add` is not 0 and is the length of every sample held
  have hmc : (if c.metricCount = 0 then d.length else c.metricCount) ≠ 0 := by split <;> omega
  have hold : ∀ x ∈ c.samples, x.length = (if c.metricCount = 0 then d.length else c.metricCount) := by
    intro x hx
    split
    · next h0 => rw [hempty h0] at hx; cases hx
    · exact hwidth x hx
  rcases add_cases c d with ⟨_, he⟩ | ⟨_, _, he⟩ | ⟨h1, h2, he⟩ <;> rw [he]
  · exact ⟨fun h => absurd h hmc, hlen, hold⟩
  · exact ⟨fun h => absurd h hmc, hlen, hold⟩
  · refine ⟨fun h => absurd h hmc, by simpa using Nat.succ_le_of_lt h2, fun x hx => ?_⟩
    rcases List.mem_append.1 hx with hx | hx
    · exact hold x hx
    · rw [List.mem_singleton.1 hx]; exact h1

/-- **batch size enforced, every history of Adds**: never more than `batchSize` samples pending -/
theorem batch_enforced (n : Nat) (ds : List BDoc) :
    ((ds.foldl (fun c d => (c.add d).1) ({ batchSize := n } : Uncompressed)).samples).length ≤ n := by
  have := List.foldlRecOn (motive := fun c : Uncompressed => c.samples.length ≤ c.batchSize ∧ c.batchSize = n) ds
    (fun c d => (c.add d).1) (b := { batchSize := n }) ⟨Nat.zero_le _, rfl⟩
    fun c h d _ => ⟨(add_bound c d h.1).1, (add_bound c d h.1).2.trans h.2⟩
  exact Nat.le_trans this.1 (Nat.le_of_eq this.2)

/-- `Reset` discards the pending samples and keeps the encoding and the metadata -/
theorem reset_keeps_configuration (c : Uncompressed) :
    c.reset.samples = [] ∧ c.reset.batchSize = c.batchSize ∧ c.reset.metadata = c.metadata := by
  simp [Uncompressed.reset]

/-- streaming variant: a flush writes exactly the resolved documents, once, and empties the
collector without replacing it -/
theorem streaming_flush_exact (c : UStreaming) (docs : List BDoc) (hp : c.info.2 ≠ 0)
    (hr : c.resolve = some docs) :
    (c.flush).1.written = c.written ++ [docs] ∧ (c.flush).1.inner.samples = [] ∧
    (c.flush).1.inner.batchSize = c.inner.batchSize ∧ (c.flush).1.inner.metadata = c.inner.metadata := by
  simp [UStreaming.flush, hp, hr, UStreaming.reset, Uncompressed.reset]

/-- the schema-aware variant resets in place: same wrapped collector, same encoding (fix F16) -/
theorem dynamic_reset_keeps_inner (c : UStreamingDynamic) :
    c.reset.s.inner.batchSize = c.s.inner.batchSize ∧ c.reset.s.inner.metadata = c.s.inner.metadata ∧
    c.reset.s.written = c.s.written := by
  simp [UStreamingDynamic.reset, UStreaming.reset, Uncompressed.reset]

/-! ### whole histories of the streaming variants

`flushW`/`addW` take the writer's answer as an argument; with `true` they are `flush`/`add`.  The facts are proved for the
general forms, from the equations of `content` in `Lemmas/UStreamSteps`. -/

theorem flushW_true (c : UStreaming) : c.flushW true = c.flush := by
  unfold UStreaming.flushW UStreaming.flush
  split
  · rfl
  · split <;> simp

theorem addW_true (c : UStreaming) (d : BDoc) : c.addW d true = c.add d := by
  unfold UStreaming.addW UStreaming.add; rw [flushW_true]

/-- a refused write changes nothing at all -/
theorem flushW_refused_noop (c : UStreaming) : (c.flushW false).1 = c := by
  fun_cases UStreaming.flushW c false
  · rfl
  · rfl
  · contradiction
  · rfl

/-- nothing is lost, duplicated or reordered by a flush: written ++ pending is the same list of sample documents
(for a collector without metadata) -/
theorem streaming_flush_conserves (c : UStreaming) (hm : c.inner.metadata = none) :
    (c.flush).1.written.flatten ++ (c.flush).1.inner.samples = c.written.flatten ++ c.inner.samples :=
  flushW_true c ▸ (UStreaming.flushW_content c true hm).1

def stepF (acc : UStreaming × List BDoc) : UFOp → UStreaming × List BDoc
  | .add d wok => let r := acc.1.addW d wok; (r.1, if r.2 then acc.2 ++ [d] else acc.2)
  | .flush wok => ((acc.1.flushW wok).1, acc.2)

/-- **write faults lose and duplicate nothing**: after any history of `Add`s and flushes in which the writer refuses any
of the writes, what has been written followed by what is pending is exactly the accepted documents, once each, in order -/
theorem conservation_under_write_faults (n : Nat) (ops : List UFOp) :
    let r := ops.foldl stepF (UStreaming.new n, [])
    r.1.written.flatten ++ r.1.inner.samples = r.2 := by
  refine (List.foldlRecOn (motive := fun r => r.1.inner.metadata = none ∧ r.1.content = r.2) ops stepF
    (b := (UStreaming.new n, [])) ⟨rfl, rfl⟩ ?_).2
  rintro r ⟨hm, h⟩ (⟨d, wok⟩ | wok) _
  · obtain ⟨a1, a2⟩ := r.1.addW_content d wok hm
    exact ⟨a2, by
      show (r.1.addW d wok).1.content = (if (r.1.addW d wok).2 then r.2 ++ [d] else r.2)
      rw [a1, h]; split <;> simp⟩
  · obtain ⟨a1, a2⟩ := r.1.flushW_content wok hm
    exact ⟨a2, a1.trans h⟩

def uaddLog (acc : UStreaming × List BDoc) (d : BDoc) : UStreaming × List BDoc :=
  let r := acc.1.add d
  (r.1, if r.2 then acc.2 ++ [d] else acc.2)

/-- **The streaming uncompressed collector loses, duplicates and reorders nothing**: after any sequence
of `Add`s, what has been written followed by the pending documents is exactly the accepted documents,
byte for byte (they are the documents themselves), once each and in order. -/
theorem ustreaming_faithful_log (n : Nat) (ds : List BDoc) :
    let r := ds.foldl uaddLog (UStreaming.new n, [])
    r.1.written.flatten ++ r.1.inner.samples = r.2 := by
  have := conservation_under_write_faults n (ds.map (.add · true))
  simp only [List.foldl_map, stepF, addW_true] at this
  exact this

/-- if nothing is pending after a final flush over a working writer, the writer holds exactly the accepted documents
(that such a flush leaves nothing pending is assumed here, not proved) -/
theorem flush_after_faults_delivers_everything (n : Nat) (ops : List UFOp) :
    ((ops ++ [UFOp.flush true]).foldl stepF (UStreaming.new n, [])).1.inner.samples = [] →
    ((ops ++ [UFOp.flush true]).foldl stepF (UStreaming.new n, [])).1.written.flatten
      = ((ops ++ [UFOp.flush true]).foldl stepF (UStreaming.new n, [])).2 := by
  intro hs
  have := conservation_under_write_faults n (ops ++ [UFOp.flush true])
  simp only at this
  rw [hs, List.append_nil] at this
  exact this

/-- non-vacuity: a refused full-batch write, then a working one -/
example : ([UFOp.add .nil true, UFOp.add .nil false, UFOp.flush true].foldl stepF (UStreaming.new 1, [])).1.written.flatten.length = 1
    ∧ ([UFOp.add .nil true, UFOp.add .nil false, UFOp.flush true].foldl stepF (UStreaming.new 1, [])).2.length = 1 := by decide

/-! ### the schema-aware variant under write faults -/

theorem dflushW_true (c : UStreamingDynamic) : c.flushW true = c.flush := by
  unfold UStreamingDynamic.flushW UStreamingDynamic.flush; rw [flushW_true]

theorem daddW_true (c : UStreamingDynamic) (d : BDoc) : c.addW d true true = c.add d := by
  simp only [UStreamingDynamic.addW, UStreamingDynamic.addWWith, UStreamingDynamic.needFlush, UStreamingDynamic.add,
    dflushW_true, addW_true]

def stepD (acc : UStreamingDynamic × List BDoc) : UDOp → UStreamingDynamic × List BDoc
  | .add d w1 w2 => let r := acc.1.addW d w1 w2; (r.1, if r.2 then acc.2 ++ [d] else acc.2)
  | .flush wok => ((acc.1.flushW wok).1, acc.2)

/-- **the schema-aware uncompressed collector under write faults**: schema changes, full batches and explicit flushes with
any pattern of refused writes lose and duplicate nothing -/
theorem dynamic_conservation_under_write_faults (n : Nat) (ops : List UDOp) :
    let r := ops.foldl stepD (UStreamingDynamic.new n, [])
    r.1.s.written.flatten ++ r.1.s.inner.samples = r.2 := by
  refine (List.foldlRecOn (motive := fun r => r.1.s.inner.metadata = none ∧ r.1.s.content = r.2) ops stepD
    (b := (UStreamingDynamic.new n, [])) ⟨rfl, rfl⟩ ?_).2
  rintro r ⟨hm, h⟩ (⟨d, w1, w2⟩ | wok) _
  · obtain ⟨a1, a2⟩ := r.1.addW_content d w1 w2 hm
    exact ⟨a2, by
      show (r.1.addW d w1 w2).1.s.content = (if (r.1.addW d w1 w2).2 then r.2 ++ [d] else r.2)
      rw [a1, h]; split <;> simp⟩
  · obtain ⟨a1, a2⟩ := r.1.flushW_content wok hm
    exact ⟨a2, a1.trans h⟩

/-! non-vacuity of `Inv` -/
example : Inv ({ batchSize := 2 } : Uncompressed) := ⟨by simp, by simp, by simp⟩

end Ftdc.Props.C17
