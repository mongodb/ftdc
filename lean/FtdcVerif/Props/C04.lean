import FtdcVerif.Lemmas.Reader
/-!
# C04 — readers are total on arbitrary bytes; corruption is reported

The reader model (`Model/Reader.lean`) is a total function: Lean's termination checker is the
no-hang argument for the sequential core, and there is no `panic` outcome because every failure
of the (repaired) Go code is an error return — including a recovered panic of the bson library,
which the strict validator makes unreachable on the model's side.  What remains to prove is that
every class of damage the property lists yields `err ≠ none`, and that chunks wholly before the
damage are delivered.  Quantifiers: all byte strings, all `inflate` functions.
-/
namespace Ftdc.Props.C04
open Ftdc

theorem reader_refines_fold (inflate : Inflate) (dbs : List Bytes) (h : ∀ db ∈ dbs, WellFramed db) :
    readAll inflate dbs.flatten = (processDocs inflate (.running none []) dbs).result :=
  readAll_framed inflate dbs h

/-- A stream cut inside a document (or with a size word < 5 or negative) is reported:
`Err()` is non-nil after `Next()` returned false — for every intact prefix and every cut. -/
theorem cut_stream_reports_error (inflate : Inflate) (dbs : List Bytes) (cut : Bytes)
    (h : ∀ db ∈ dbs, WellFramed db) (hc : Incomplete cut) :
    (readAll inflate (dbs.flatten ++ cut)).err ≠ none := by
  rw [readAll_append_framed inflate dbs cut h]
  cases processDocs inflate (.running none []) dbs <;> simp [readAllAux, frame_incomplete hc]

/-- Every chunk that lies wholly before the damage is delivered intact: whatever follows the
framed documents `dbs`, the chunks they decode to are a prefix of what the reader delivers. -/
theorem intact_prefix_delivered (inflate : Inflate) (dbs : List Bytes) (tail : Bytes)
    (h : ∀ db ∈ dbs, WellFramed db) :
    (readAll inflate dbs.flatten).chunks <+: (readAll inflate (dbs.flatten ++ tail)).chunks := by
  rw [readAll_framed inflate dbs h, readAll_append_framed inflate dbs tail h]
  cases processDocs inflate (.running none []) dbs with
  | failed acc e => simp [RState.result]
  | running md acc => exact readAllAux_chunks_prefix inflate _ tail md acc

theorem delivered_chunks_monotone (inflate : Inflate) (s : RState) (dbs : List Bytes) :
    s.chunks <+: (processDocs inflate s dbs).chunks :=
  List.foldlRecOn (motive := fun r => s.chunks <+: r.chunks) dbs (stepDoc inflate) (List.prefix_refl _)
    fun b hb db _ => hb.trans (stepDoc_chunks_prefix inflate b db)

theorem error_is_sticky (inflate : Inflate) (acc : List Chunk) (e : ReadErr) (dbs : List Bytes) :
    processDocs inflate (.failed acc e) dbs = .failed acc e :=
  processDocs_failed inflate acc e dbs

theorem malformed_document_reports_error (inflate : Inflate) (md : Option BDoc) (acc : List Chunk)
    (db : Bytes) (h : parseDoc db = none) :
    stepDoc inflate (.running md acc) db = .failed acc .frame := by
  simp [stepDoc, h]

/-- A metric chunk (`type` numerically 1) whose payload field is missing, not binary, shorter
than its 4-byte header, not inflatable, inconsistent (bad reference document, metric count that
differs from the reference document, truncated varints) or whose compressed stream ends in an
error is reported.  `hd` is the chain of tests `processDoc` makes on the `data` field, with the outcome that fails;
an arm `True` is an outcome on which `processDoc` fails unconditionally. -/
theorem damaged_chunk_reports_error (inflate : Inflate) (doc : BDoc) (md : Option BDoc)
    (h0 : isNum 0 (lookupLast keyType doc) = false) (h1 : isNum 1 (lookupLast keyType doc) = true)
    (hd : match lookupLast keyData doc with
      | none => True
      | some (.other 0x05 raw) =>
          (binaryPayload raw).length < 4 ∨
          match inflate ((binaryPayload raw).drop 4) with
          | none => True
          | some (p, clean) => (∃ e, decodePayload p = .error e) ∨ clean = false
      | some _ => True) :
    ∃ e, processDoc inflate doc md = .error e := by
  fun_cases processDoc inflate doc md
  -- the arms without an error: a type-0 document (`h0`), another type (`h1`), a sound chunk (`hd`)
  case case1 | case2 | case7 => simp_all +zetaDelta
  all_goals exact ⟨_, rfl⟩

/-- Payload level.  `hd` is data, not a hypothesis: the payload `p` is the reference document `db` followed by `rest`, `hd` the
eight bytes of the two count words at the head of `rest`, the metric count first, and `body` what follows them. -/
theorem count_mismatch_is_error (db rest hd body : Bytes) (ref : BDoc) (p : Bytes)
    (hp : p = db ++ rest) (hw : WellFramed db) (hr : parseDoc db = some ref)
    (hh : takeN 8 rest = some (hd, body)) (hc : rdLe (hd.take 4) ≠ (metricsOf ref).length) :
    decodePayload p = .error .count := by
  subst hp
  obtain ⟨h4, hl, hno, ht⟩ := hw.split rest
  simp only [decodePayload, h4, hl, hno, ht, hr, hh, hc, ne_eq, not_false_eq_true, ite_true, ite_false]

example : WellFramed [5, 0, 0, 0, 0] := by unfold WellFramed; decide
example : Incomplete [5, 0, 0, 0] := by unfold Incomplete; decide
example : Incomplete [7, 0] := by unfold Incomplete; decide
example : Incomplete [3, 0, 0, 0, 0] := by unfold Incomplete; decide

end Ftdc.Props.C04
