import FtdcVerif.Lemmas.Codec
import FtdcVerif.Lemmas.Rle
import FtdcVerif.Lemmas.EndToEnd
import FtdcVerif.Lemmas.StreamE2E
import FtdcVerif.Lemmas.SDynE2E
import FtdcVerif.Lemmas.FileE2E
import FtdcVerif.Lemmas.PayloadTie
import FtdcVerif.Lemmas.UndeltaTie
/-!
# C01 — structured round trip is lossless

The round trip is proved layer by layer, each for all inputs (varints, zero-run stream, wrapping deltas, bit-exact
leaves, restoring a document from its values, the BSON parser on the serialiser's output), composed for one chunk
(`chunk_roundtrip`), then for what each collector writes — as documents and as file bytes — and tied to the Go text of
the encoder loop and of `undelta`.  The timestamp clause of the property is FALSE of the code as it is (finding F1: an
existing unit test pins the scaled starting value, so it cannot be repaired without editing the suite);
`timestamp_clause_false` proves the negation on the witness that is replayed on the implementation.
-/
namespace Ftdc.Props.C01
open Ftdc

/-- `binary.ReadUvarint` inverts `binary.PutUvarint` for every uint64, whatever follows. -/
theorem varint_roundtrip (x : Nat) (hx : x < 2 ^ 64) (rest : Bytes) :
    readUvarint (putUvarint x ++ rest) = some (x, rest) :=
  readUvarint_putUvarint x hx rest

/-- undoing the wrapping deltas of any int64 sequence gives the sequence back (differences that overflow included) -/
theorem deltas_roundtrip (v : I64) (xs : List I64) : undelta v (deltas v xs) = v :: xs :=
  undelta_deltas v xs

/-- The zero-run/varint stream written by `getPayload` decodes to exactly the deltas it encodes,
for every delta list (all zero-run placements, runs crossing metric boundaries), any trailing
bytes. -/
theorem delta_stream_roundtrip (ds : List I64) (rest : Bytes) (h : ds.length < 2 ^ 64) :
    rleDecAux ds.length 0 (rleEnc ds ++ rest) = some (ds, 0, rest) :=
  rle_roundtrip ds rest h

/-- Reading the stream metric by metric is reading it in one go (the zero-run carry survives
metric boundaries). -/
theorem delta_stream_split (a b nz : Nat) (bs : Bytes) :
    rleDecAux (a + b) nz bs =
      (rleDecAux a nz bs).bind fun x =>
        (rleDecAux b x.2.1 x.2.2).map fun y => (x.1 ++ y.1, y.2.1, y.2.2) :=
  rleDecAux_append a b nz bs

theorem bool_exact (b : Bool) : ((if b then 1#64 else 0#64) != 0#64) = b := bool_restore b
theorem int32_exact (v : BitVec 32) : (signExt32 v).truncate 32 = v := signExt_truncate v
theorem timestamp_word_exact (v : BitVec 32) : (v.zeroExtend 64).truncate 32 = v := zeroExt_truncate v
/-- UTC datetimes within the range Go can express in nanoseconds are normalised to themselves -/
theorem datetime_exact (ms : I64) (h : InNanoRange ms) : restoreDT (normDT ms) = ms := by
  -- rewrite, do not leave `restoreDT (normDT ms) ≡ normDT ms` to the kernel: it unfolds `normDT` first
  rw [restoreDT, normDT_inRange ms h]

/-- Restoring a document from its own extracted metric values yields the document with the non-metric leaves removed
(`project`): same keys, nesting, array positions (re-indexed), BSON types and bit-identical values. -/
theorem restore_is_project (d : BDoc) (h : DatesOk d) : restoreDoc d (vals d) = project d :=
  restore_extract d h

/-- Documents with no metrics at all restore to their (empty-container) skeleton. -/
theorem no_metrics_restore (d : BDoc) (h : DatesOk d) (hn : vals d = []) :
    restoreDoc d [] = project d := by
  rw [← hn]; exact restore_extract d h

/-! ### known finding F1: the timestamp clause fails -/

/-- the full leaf-level claim of the property for timestamps -/
def timestamp_clause : Prop :=
  ∀ (t i : BitVec 32) (key : Bytes),
    (metricsVal key [] (.timestamp t i)).map (·.start) = (extractVal (.timestamp t i)).map (·.1)

/-- It is false of the code: the decoder's starting value of the seconds is scaled by 1000,
so `{ts: Timestamp(5,7)}` reads back as `Timestamp(5000,7)`. -/
theorem timestamp_clause_false : ¬ timestamp_clause := by
  intro h
  have := h 5#32 7#32 []
  revert this
  decide

/-- ... while for every other metric leaf the decoder's starting value is the encoder's value -/
theorem start_is_value_partial (key : Bytes) (v : BVal) (hts : ∀ t i, v ≠ .timestamp t i)
    (hd : ∀ d, v ≠ .doc d) (ha : ∀ d, v ≠ .arr d) :
    (metricsVal key [] v).map (·.start) = (extractVal v).map (·.1) := by
  cases v with
  | timestamp t i => exact absurd rfl (hts t i)
  | doc d => exact absurd rfl (hd d)
  | arr d => exact absurd rfl (ha d)
  | _ => rfl

/-! ### the composition -/

/-- the strict BSON parser (twin of `validateDocument`) reads back what is written -/
theorem wire_document_roundtrip (d : BDoc) (hw : WFDoc d) (hl : (serDoc d).length < 2 ^ 31) :
    parseDoc (serDoc d) = some d := parseDoc_serDoc d hw hl

/-- a document of the reference document's schema (same keys, nesting, element types; any values,
non-metric leaves included) is restored from ITS OWN values, not the reference's -/
theorem restore_other_document (ref d : BDoc) (h : SimDoc ref d) (hd : DatesOk d) :
    restoreDoc ref (vals d) = project d := restoreDoc_sim ref d h hd

/-- `chunk_roundtrip` without its last hypothesis, which the two before it imply -/
theorem chunk_roundtrip_of_counts (d0 : BDoc) (ds : List BDoc)
    (hw : WFDoc d0) (hl : (serDoc d0).length < 2 ^ 31) (hts : NoTs d0)
    (hsim : ∀ d ∈ ds, SimDoc d0 d) (hd0 : DatesOk d0) (hds : ∀ d ∈ ds, DatesOk d)
    (hnm : (vals d0).length < 2 ^ 32) (hn : ds.length < 2 ^ 32) :
    ∃ c, decodePayload (payloadOf d0 (vals d0) (ds.map vals)) = .ok c ∧
      c.structured = (d0 :: ds).map project := by
  obtain ⟨c, hc, href, hrows⟩ := decode_payload_of_counts d0 (ds.map vals) hw hl hts
    (by intro r hr
        obtain ⟨d, hd, rfl⟩ := List.mem_map.1 hr
        exact (simDoc_length d0 d (hsim d hd)).symm)
    hnm (by simpa using hn)
  refine ⟨c, hc, ?_⟩
  simp only [Chunk.structured, hrows, href, List.map_cons, List.map_map]
  exact List.cons_eq_cons.2 ⟨restore_extract d0 hd0,
    List.map_congr_left fun d hd => restoreDoc_sim d0 d (hsim d hd) (hds d hd)⟩

/-- **End to end, for one chunk.**  For every document `d0` and every list `ds` (possibly empty) of documents of its
schema, the payload `getPayload` writes — reference document, counts, metric-major zero-run/varint delta stream — is
decoded by the reader into a chunk whose structured documents are exactly `d0 :: ds` with the non-metric leaves removed,
in order.  Hypotheses: the reference document is well-formed BSON below 2^31 bytes, datetimes are within the nanosecond
range (the property's own domain), the counts fit their 32-bit fields, and there is no timestamp leaf (finding F1). -/
theorem chunk_roundtrip (d0 : BDoc) (ds : List BDoc)
    (hw : WFDoc d0) (hl : (serDoc d0).length < 2 ^ 31) (hts : NoTs d0)
    (hsim : ∀ d ∈ ds, SimDoc d0 d) (hd0 : DatesOk d0) (hds : ∀ d ∈ ds, DatesOk d)
    (hnm : (vals d0).length < 2 ^ 32) (hn : ds.length < 2 ^ 32)
    (hsz : (vals d0).length * ds.length < 2 ^ 64) :
    ∃ c, decodePayload (payloadOf d0 (vals d0) (ds.map vals)) = .ok c ∧
      c.structured = (d0 :: ds).map project :=
  chunk_roundtrip_of_counts d0 ds hw hl hts hsim hd0 hds hnm hn

/-- **End to end, for the base collector.**  Add `d0` and then any documents `ds` of its schema
(at most the chunk capacity) to a fresh collector: `Resolve` produces one metric chunk, and decoding
that chunk's payload yields exactly `d0 :: ds` with the non-metric leaves removed, in order. -/
theorem base_collector_roundtrip (n : Nat) (d0 : BDoc) (ds : List BDoc) (hroom : ds.length ≤ n)
    (hw : WFDoc d0) (hl : (serDoc d0).length < 2 ^ 31) (hts : NoTs d0)
    (hsim : ∀ d ∈ ds, SimDoc d0 d) (hd0 : DatesOk d0) (hds : ∀ d ∈ ds, DatesOk d)
    (hnm : (vals d0).length < 2 ^ 32) (hn : ds.length < 2 ^ 32)
    (hsz : (vals d0).length * ds.length < 2 ^ 64) :
    ∃ out c, (ds.foldl (fun (c : Better) d => (c.add d).1) (({ maxDeltas := n } : Better).add d0).1).resolve
        = some [out] ∧
      decodePayload out.payload = .ok c ∧ c.structured = (d0 :: ds).map project := by
  obtain ⟨c, hc, hstr⟩ := chunk_roundtrip d0 ds hw hl hts hsim hd0 hds hnm hn hsz
  exact ⟨mkChunk (d0, ds), c, (better_adds n d0 ds hroom hsim).resolve, hc, hstr⟩

/-- documents the collector round trips of this file apply to (`C07.DocOK`, the hypothesis of the byte-level theorems, with
`DatesOk` added: `good_docOK`) -/
def Good (d : BDoc) : Prop :=
  WFDoc d ∧ (serDoc d).length < 2 ^ 31 ∧ NoTs d ∧ DatesOk d ∧ (vals d).length < 2 ^ 32

/-- `chunk_roundtrip_of_counts` for the chunk of the documents `p.1 :: p.2` -/
theorem mkChunk_decodes (n : Nat) (hn : n < 2 ^ 32) (p : BDoc × List BDoc) (hsim : InSim p)
    (hgood : ∀ x ∈ chunkDocs p, Good x) (hsize : p.2.length + 1 ≤ n) :
    ∃ ch, decodePayload (mkChunk p).payload = .ok ch ∧ ch.structured = (chunkDocs p).map project := by
  obtain ⟨gw, gl, gts, gd, gnm⟩ := hgood p.1 (List.mem_cons_self ..)
  exact chunk_roundtrip_of_counts p.1 p.2 gw gl gts hsim gd
    (fun x hx => let ⟨_, _, _, hd, _⟩ := hgood x (List.mem_cons_of_mem _ hx); hd) gnm (by omega)

theorem inSim_of_all (d0 : BDoc) {all : List BDoc} (hall : ∀ x ∈ all, SimDoc d0 x) {p : BDoc × List BDoc}
    (hmem : ∀ x ∈ chunkDocs p, x ∈ all) : InSim p := fun x hx =>
  simDoc_of_common (hall p.1 (hmem _ (List.mem_cons_self ..))) (hall x (hmem x (List.mem_cons_of_mem _ hx)))

/-- **End to end, for the streaming collector, every chunk size, every number of documents.**  Add `d0` and then any
documents `ds` of its schema to a fresh streaming collector: what it has handed to its writer is one metric chunk per
element of `chs`, `cur` is the pending chunk, their documents `(head, tail)` concatenated are exactly `d0 :: ds`, and the
reader decodes each of these chunks to exactly its documents with the non-metric leaves removed. -/
theorem streaming_collector_roundtrip (n : Nat) (h1 : 1 ≤ n) (hn : n < 2 ^ 32) (d0 : BDoc) (ds : List BDoc)
    (hsim : ∀ d ∈ ds, SimDoc d0 d) (hgood : ∀ d ∈ d0 :: ds, Good d) :
    ∃ (chs : List (BDoc × List BDoc)) (cur : Option (BDoc × List BDoc)),
      let c := (d0 :: ds).foldl (fun (c : Streaming) d => (c.add d).1) (Streaming.new n)
      logDocs c.out = chs.map mkChunk ∧
      (∀ p, cur = some p → c.inner.resolve = some [mkChunk p]) ∧
      allDocs chs cur = d0 :: ds ∧
      ∀ p, (p ∈ chs ∨ cur = some p) →
        ∃ ch, decodePayload (mkChunk p).payload = .ok ch ∧ ch.structured = (chunkDocs p).map project := by
  obtain ⟨chs, cur, g, hall⟩ := sg_run n h1 d0 ds hsim
  refine ⟨chs, cur, g.logged, ?_, hall, ?_⟩
  · rintro p rfl
    exact g.pend.1.resolve
  · intro p hp
    have hmem : ∀ x ∈ chunkDocs p, x ∈ d0 :: ds := fun x hx => hall ▸ mem_allDocs hp hx
    exact mkChunk_decodes n hn p (inSim_of_all d0 (List.forall_mem_cons.2 ⟨simDoc_refl _, hsim⟩) hmem)
      (fun x hx => hgood x (hmem x hx)) (g.size_le hp)

/-- **End to end, for the batch collector, every chunk size, every number of documents.**  `Resolve` returns one metric
chunk per element of `runs`, whose documents concatenated are `d0 :: ds`, and the reader decodes each chunk to exactly its
documents with the non-metric leaves removed. -/
theorem batch_collector_roundtrip (n : Nat) (h1 : 1 ≤ n) (hn : n < 2 ^ 32) (d0 : BDoc) (ds : List BDoc)
    (hsim : ∀ d ∈ ds, SimDoc d0 d) (hgood : ∀ d ∈ d0 :: ds, Good d) :
    ∃ runs : List (BDoc × List BDoc),
      ((d0 :: ds).foldl (fun (b : Batch) d => (b.add d).1) (Batch.new n)).resolve = some (runs.map mkChunk) ∧
      (runs.map chunkDocs).flatten = d0 :: ds ∧
      ∀ p ∈ runs, ∃ ch, decodePayload (mkChunk p).payload = .ok ch ∧ ch.structured = (chunkDocs p).map project := by
  obtain ⟨runs, hallh, hall⟩ := bg_run_holds n h1 d0 ds hsim
  refine ⟨runs, Batch.resolve_of_allHold hallh, hall, fun p hp => ?_⟩
  have hmem : ∀ x ∈ chunkDocs p, x ∈ d0 :: ds := fun x hx =>
    hall ▸ List.mem_flatten.2 ⟨_, List.mem_map_of_mem hp, hx⟩
  exact mkChunk_decodes n hn p (inSim_of_all d0 (List.forall_mem_cons.2 ⟨simDoc_refl _, hsim⟩) hmem)
    (fun x hx => hgood x (hmem x hx)) (allHold_le hallh p hp)

/-- **End to end, for the dynamic collector.**  Documents of one schema have one schema key
(`sim_schemaKey`), so the dynamic collector holds exactly one batch collector and everything
`batch_collector_roundtrip` says holds of it. -/
theorem dynamic_collector_roundtrip (n : Nat) (h1 : 1 ≤ n) (hn : n < 2 ^ 32) (d0 : BDoc) (ds : List BDoc)
    (hsim : ∀ d ∈ ds, SimDoc d0 d) (hgood : ∀ d ∈ d0 :: ds, Good d) :
    ∃ runs : List (BDoc × List BDoc),
      ((d0 :: ds).foldl (fun (c : Dynamic) d => (c.add d).1) (Dynamic.new n)).resolve = some (runs.map mkChunk) ∧
      (runs.map chunkDocs).flatten = d0 :: ds ∧
      ∀ p ∈ runs, ∃ ch, decodePayload (mkChunk p).payload = .ok ch ∧ ch.structured = (chunkDocs p).map project := by
  obtain ⟨runs, hr, hall, hdec⟩ := batch_collector_roundtrip n h1 hn d0 ds hsim hgood
  refine ⟨runs, ?_, hall, hdec⟩
  rw [dynamic_resolve_one _ _ (dynamic_one_schema n d0 ds hsim)]
  exact hr

/-- **End to end, for the dynamic collector, any sequence of schemas.**  The documents are any
sequence of runs `(head, tail)`; inside a run every document has the head's schema, and consecutive
runs have different schema keys (what is excluded is only two different schemas with one key, the
collision the collector cannot see).  Every chunk `Resolve` returns decodes to exactly its documents,
and the chunks' documents concatenated are all the documents, in order. -/
theorem dynamic_collector_any_schemas (n : Nat) (h1 : 1 ≤ n) (hn : n < 2 ^ 32)
    (s0 : BDoc × List BDoc) (segs : List (BDoc × List BDoc))
    (hsim : ∀ s ∈ s0 :: segs, ∀ d ∈ s.2, SimDoc s.1 d) (hadj : AdjDiff (s0 :: segs))
    (hgood : ∀ s ∈ s0 :: segs, ∀ d ∈ chunkDocs s, Good d) :
    ∃ runs : List (BDoc × List BDoc),
      (((s0 :: segs).flatMap chunkDocs).foldl (fun (c : Dynamic) d => (c.add d).1) (Dynamic.new n)).resolve =
        some (runs.map mkChunk) ∧
      (runs.map chunkDocs).flatten = (s0 :: segs).flatMap chunkDocs ∧
      ∀ p ∈ runs, ∃ ch, decodePayload (mkChunk p).payload = .ok ch ∧ ch.structured = (chunkDocs p).map project := by
  obtain ⟨runs, hr, hall, hdec⟩ := resolve_batches n
    (fun p => ∃ ch, decodePayload (mkChunk p).payload = .ok ch ∧ ch.structured = (chunkDocs p).map project)
    (s0 :: segs) [] fun s hs => batch_collector_roundtrip n h1 hn s.1 s.2 (hsim s hs) (hgood s hs)
  refine ⟨runs, ?_, hall, hdec⟩
  unfold Dynamic.resolve
  rw [dynamic_runs n s0 segs hsim hadj]
  rw [List.map_nil, List.nil_append] at hr
  exact hr

/-- **End to end, for the schema-aware streaming collector**: on documents of one schema it never
flushes for a schema change, so its inner streaming collector is in exactly the state
`streaming_collector_roundtrip` describes. -/
theorem streaming_dynamic_collector_roundtrip (n : Nat) (h1 : 1 ≤ n) (hn : n < 2 ^ 32) (d0 : BDoc) (ds : List BDoc)
    (hsim : ∀ d ∈ ds, SimDoc d0 d) (hgood : ∀ d ∈ d0 :: ds, Good d) :
    ∃ (chs : List (BDoc × List BDoc)) (cur : Option (BDoc × List BDoc)),
      let c := ((d0 :: ds).foldl (fun (c : StreamingDynamic) d => (c.add d).1) (StreamingDynamic.new n)).s
      logDocs c.out = chs.map mkChunk ∧
      (∀ p, cur = some p → c.inner.resolve = some [mkChunk p]) ∧
      allDocs chs cur = d0 :: ds ∧
      ∀ p, (p ∈ chs ∨ cur = some p) →
        ∃ ch, decodePayload (mkChunk p).payload = .ok ch ∧ ch.structured = (chunkDocs p).map project := by
  rw [sd_one_schema n d0 ds hsim]
  exact streaming_collector_roundtrip n h1 hn d0 ds hsim hgood

/-- **End to end, for the schema-aware streaming collector, any sequence of schemas.**  Same
hypotheses as `dynamic_collector_any_schemas`.  What reached the writer is one metric chunk per element of
`chs`, `p` is the pending chunk, all of them concatenated are all the documents in order (a
change of schema key flushes the pending chunk, losing nothing), and every chunk decodes to exactly
its documents. -/
theorem streaming_dynamic_collector_any_schemas (n : Nat) (h1 : 1 ≤ n) (hn : n < 2 ^ 32)
    (s0 : BDoc × List BDoc) (segs : List (BDoc × List BDoc))
    (hsim : ∀ s ∈ s0 :: segs, ∀ d ∈ s.2, SimDoc s.1 d) (hadj : AdjDiff (s0 :: segs))
    (hgood : ∀ s ∈ s0 :: segs, ∀ d ∈ chunkDocs s, Good d) :
    ∃ (chs : List (BDoc × List BDoc)) (p : BDoc × List BDoc),
      let c := (((s0 :: segs).flatMap chunkDocs).foldl (fun (c : StreamingDynamic) d => (c.add d).1)
        (StreamingDynamic.new n)).s
      logDocs c.out = chs.map mkChunk ∧
      c.inner.resolve = some [mkChunk p] ∧
      allDocs chs (some p) = (s0 :: segs).flatMap chunkDocs ∧
      ∀ q, (q ∈ chs ∨ q = p) →
        ∃ ch, decodePayload (mkChunk q).payload = .ok ch ∧ ch.structured = (chunkDocs q).map project := by
  obtain ⟨chs, p, g, hall⟩ := sd_runs n h1 s0 segs hsim hadj
  refine ⟨chs, p, g.sg.logged, ?_, hall, ?_⟩
  · exact g.sg.pend.1.resolve
  · intro q hq
    have hq' : q ∈ chs ∨ some p = some q := hq.imp_right fun e => congrArg some e.symm
    refine mkChunk_decodes n hn q ?_ (fun x hx => ?_) (g.sg.size_le hq')
    · rcases hq with hq | rfl
      · exact g.runs q hq
      · exact g.pend
    · obtain ⟨s, hs, hxs⟩ := List.mem_flatMap.1 (hall ▸ mem_allDocs hq' hx)
      exact hgood s hs x hxs

/-! non-vacuity: `{a: 5, s: "x", n: {b: <double>}}` followed by two more samples of that schema
(the string leaf differs, which is allowed) meets every hypothesis of `chunk_roundtrip` -/
example : ∃ c, decodePayload (payloadOf
      (.cons [97] (.int64 5#64) (.cons [115] (.other 2 (le32 2 ++ [120] ++ [0]))
        (.cons [110] (.doc (.cons [98] (.double 7#64) .nil)) .nil)))
      (vals (.cons [97] (.int64 5#64) (.cons [115] (.other 2 (le32 2 ++ [120] ++ [0]))
        (.cons [110] (.doc (.cons [98] (.double 7#64) .nil)) .nil))))
      ([ .cons [97] (.int64 18446744073709551615#64) (.cons [115] (.other 2 (le32 2 ++ [121] ++ [0]))
          (.cons [110] (.doc (.cons [98] (.double 0#64) .nil)) .nil)),
         .cons [97] (.int64 9223372036854775807#64) (.cons [115] (.other 2 (le32 2 ++ [120] ++ [0]))
          (.cons [110] (.doc (.cons [98] (.double 7#64) .nil)) .nil)) ].map vals)) = .ok c ∧
    c.structured.length = 3 := by
  have hkey : ∀ b : Nat, b ≠ 0 → KeyOk [b] := fun b hb x hx => List.mem_singleton.1 hx ▸ hb
  -- the documents are read off the goal
  refine (chunk_roundtrip_of_counts _ _ ?_ ?_ ?_ ?_ ?_ ?_ ?_ ?_).imp fun c h => ⟨h.1, by rw [h.2]; rfl⟩
  · exact ⟨hkey 97 (by decide), trivial, hkey 115 (by decide), otherOk_string 2 (Or.inl rfl) [120] (by simp),
      hkey 110 (by decide), ⟨⟨hkey 98 (by decide), trivial, trivial⟩,
        by simp [serDoc_length, serElems, serVal, le64_length]⟩, trivial⟩
  · simp [serDoc_length, serElems, serVal, le32_length, le64_length]
  · simp [NoTs, NoTsVal]
  · refine List.forall_mem_cons.2 ⟨?_, List.forall_mem_singleton.2 ?_⟩ <;> simp [SimDoc, SimVal]
  · simp [DatesOk, DatesOkVal]
  · refine List.forall_mem_cons.2 ⟨?_, List.forall_mem_singleton.2 ?_⟩ <;> simp [DatesOk, DatesOkVal]
  · decide
  · decide

example : DatesOk (.cons [100] (.datetime 1600000000000#64) (.cons [101] (.doc (.cons [102] (.int64 5#64) .nil)) .nil)) := by
  refine ⟨?_, ⟨trivial, trivial⟩, trivial⟩
  show InNanoRange _
  unfold InNanoRange; decide

/-! non-vacuity of `dynamic_collector_any_schemas`: three runs `{a}×2, {b}, {a}` with chunk size 1 -/
theorem good_a (k : Nat) (hk : k ≠ 0 ∧ k < 256) (v : BitVec 64) : Good (.cons [k] (.int64 v) .nil) := by
  refine ⟨⟨by intro b hb; simp at hb; omega, trivial, trivial⟩, by simp [serDoc_length, serElems, serVal, le64_length], by simp [NoTs, NoTsVal], by simp [DatesOk, DatesOkVal], by simp [vals, extractDoc, extractVal]⟩

example : ∃ runs : List (BDoc × List BDoc),
    (([((.cons [97] (.int64 5#64) .nil : BDoc), [(.cons [97] (.int64 6#64) .nil : BDoc)]),
       (.cons [98] (.int64 5#64) .nil, []),
       (.cons [97] (.int64 7#64) .nil, [])].flatMap chunkDocs).foldl
        (fun (c : Dynamic) d => (c.add d).1) (Dynamic.new 1)).resolve = some (runs.map mkChunk) ∧
    ((runs.map chunkDocs).flatten).length = 4 := by
  obtain ⟨runs, h1, h2, _⟩ := dynamic_collector_any_schemas 1 (by omega) (by omega)
    (.cons [97] (.int64 5#64) .nil, [.cons [97] (.int64 6#64) .nil])
    [(.cons [98] (.int64 5#64) .nil, []), (.cons [97] (.int64 7#64) .nil, [])]
    (by intro s hs d hd
        simp at hs
        rcases hs with rfl | rfl | rfl
        · simp at hd; subst hd; simp [SimDoc, SimVal]
        · simp at hd
        · simp at hd)
    (by simp [AdjDiff, HeadDiff, schemaKey, hashElems, hashVal])
    (by intro s hs d hd
        simp at hs
        rcases hs with rfl | rfl | rfl <;> simp [chunkDocs] at hd
        · rcases hd with rfl | rfl <;> exact good_a 97 (by omega) _
        · subst hd; exact good_a 98 (by omega) _
        · subst hd; exact good_a 97 (by omega) _)
  exact ⟨runs, h1, by rw [h2]; simp [chunkDocs]⟩

/-! ### at the byte level: the collectors' output as a file, read back by `ReadChunks` (`Lemmas/FileE2E.lean`) -/

open Ftdc.Props.C07 in
/-- **the streaming collector, end to end at the byte level** (every chunk size, every number of documents, any
schemas, rejected documents included): the BYTES handed to the writer are read back without error, and the samples of
the chunks delivered followed by the pending samples are exactly the accepted documents' values, once each, in order -/
theorem streaming_file_roundtrip (n : Nat) (hn : n < 2 ^ 32) (ds : List BDoc) (hds : ∀ d ∈ ds, DocOK d)
    (deflate : Bytes → Bytes) (inflate : Inflate) (hz : FileE2E.ZlibOK deflate inflate) (now : I64)
    (hsz : FileE2E.SizesOK deflate now (loggedDocs (ds.foldl addLog (Streaming.new n, [])).1.out)) :
    let r := ds.foldl addLog (Streaming.new n, [])
    let file := FileE2E.fileBytes deflate now (loggedDocs r.1.out)
    (readAll inflate file).err = none ∧
    ((readAll inflate file).chunks.map Chunk.rows).flatten ++ r.1.inner.samples =
      r.2.map fun x => (extractDoc x).map (·.1) :=
  FileE2E.streaming_file_roundtrip n hn ds hds deflate inflate hz now hsz

open Ftdc.Props.C07 in
/-- **the batch collector, end to end at the byte level**: what `Resolve` returns, as bytes, is read back without error
into exactly the samples the collector holds (= the accepted ones, `C07.batch_faithful_log`) -/
theorem batch_file_roundtrip (n : Nat) (hn : n < 2 ^ 32) (ds : List BDoc) (hds : ∀ d ∈ ds, DocOK d)
    (deflate : Bytes → Bytes) (inflate : Inflate) (hz : FileE2E.ZlibOK deflate inflate) (now : I64)
    (out : List OutDoc) (hres : (ds.foldl (fun b d => (b.add d).1) (Batch.new n)).resolve = some out)
    (hsz : FileE2E.SizesOK deflate now out) :
    (readAll inflate (FileE2E.fileBytes deflate now out)).err = none ∧
    ((readAll inflate (FileE2E.fileBytes deflate now out)).chunks.map Chunk.rows).flatten =
      (ds.foldl (fun b d => (b.add d).1) (Batch.new n)).samples :=
  FileE2E.batch_file_roundtrip n hn ds hds deflate inflate hz now out hres hsz

open Ftdc.Props.C07 in
theorem good_docOK (d : BDoc) (h : Good d) : DocOK d := by
  obtain ⟨h1, h2, h3, _, h5⟩ := h
  exact ⟨h1, h2, h3, by simpa [vals] using h5⟩

open Ftdc.Props.C07 in
/-- **`ReadStructuredMetrics` of the bytes a streaming collector has written**: add `d0` and any documents `ds` of its
schema (every chunk size, every count); the bytes handed to the writer, read back by the reader model, give - chunk by
chunk and in order - exactly the documents added (all but those of the pending chunk) with their non-metric leaves
removed, and no error. -/
theorem streaming_file_structured (n : Nat) (h1 : 1 ≤ n) (hn : n < 2 ^ 32) (d0 : BDoc) (ds : List BDoc)
    (hsim : ∀ d ∈ ds, SimDoc d0 d) (hgood : ∀ d ∈ d0 :: ds, Good d)
    (deflate : Bytes → Bytes) (inflate : Inflate) (hz : FileE2E.ZlibOK deflate inflate) (now : I64)
    (hsz : FileE2E.SizesOK deflate now
      (logDocs ((d0 :: ds).foldl (fun (c : Streaming) d => (c.add d).1) (Streaming.new n)).out)) :
    ∃ (chs : List (BDoc × List BDoc)) (cur : Option (BDoc × List BDoc)),
      allDocs chs cur = d0 :: ds ∧
      let file := FileE2E.fileBytes deflate now
        (logDocs ((d0 :: ds).foldl (fun (c : Streaming) d => (c.add d).1) (Streaming.new n)).out)
      (readAll inflate file).err = none ∧
      (readAll inflate file).chunks.map Chunk.structured = chs.map fun p => (chunkDocs p).map project := by
  obtain ⟨chs, cur, hlog, _, hall, hdec⟩ := streaming_collector_roundtrip n h1 hn d0 ds hsim hgood
  refine ⟨chs, cur, hall, ?_⟩
  intro file
  have hck' := FileE2E.streaming_logged_chunkOK n hn (d0 :: ds) (fun d hd => good_docOK d (hgood d hd))
  rw [loggedDocs_eq] at hck'
  obtain ⟨e1, e2⟩ := FileE2E.file_roundtrip deflate inflate hz now _ (FileE2E.outOK_of_chunkOK_sizesOK hck' hsz)
  refine ⟨e1, ?_⟩
  -- `structured` is a function of the reference document and the rows, which `file_roundtrip` gives
  have hstr : (readAll inflate file).chunks.map Chunk.structured =
      ((readAll inflate file).chunks.map fun c => (c.ref, c.rows)).map fun q => q.2.map (restoreDoc q.1) := by
    rw [List.map_map]; rfl
  have hparts : (chs.map mkChunk).filterMap FileE2E.chunkPart = chs.map fun p => (p.1, vals p.1 :: p.2.map vals) := by
    simp [List.filterMap_map, Function.comp_def, mkChunk, FileE2E.chunkPart]
  rw [hstr, e2, hlog, hparts, List.map_map]
  apply List.map_congr_left
  intro p hp
  obtain ⟨ch, hd, hs⟩ := hdec p (Or.inl hp)
  obtain ⟨g1, g2⟩ := FileE2E.decoded_ref_rows _ _ _ _ (hck' _ (hlog ▸ List.mem_map.mpr ⟨p, hp, rfl⟩)) ch hd
  rw [← hs, Chunk.structured, g1, g2]; rfl

/-- **the payload with the regenerated Go encoder loop in it decodes to the samples**: reference document, the two
counts, then the bytes of the values that the translation of `getPayload`'s loops (`Gen.Better.getPayload_region`,
rewritten from the Go text on every run) hands to `encodeValue` — for every delta table that holds the per-metric
deltas of the samples. -/
theorem go_encoder_loop_roundtrip (ref : BDoc) (rows : List Row) (ds : List Int) (md : Int)
    (hw : WFDoc ref) (hl : (serDoc ref).length < 2 ^ 31) (hts : NoTs ref)
    (hrows : ∀ r ∈ rows, r.length = (vals ref).length)
    (hnm : (vals ref).length < 2 ^ 32) (hn : rows.length < 2 ^ 32)
    (hsz : (vals ref).length * rows.length < 2 ^ 63)
    (htab : PayloadTie.TableHolds ds md (vals ref) rows) (hr : ∀ x ∈ ds, -2 ^ 63 ≤ x ∧ x < 2 ^ 63) :
    ∃ c, decodePayload (serDoc ref ++ le32 (vals ref).length ++ le32 rows.length
          ++ PayloadTie.emitBytes (Gen.Better.getPayload_region ds md (rows.length : Int) ((vals ref).length : Int) []))
        = .ok c ∧ c.ref = ref ∧ c.rows = vals ref :: rows := by
  rw [← PayloadTie.payloadOf_is_go_loop ref (vals ref) rows ds md htab hr hsz]
  exact decode_payload_of_counts ref rows hw hl hts hrows hnm hn

/-- **`undelta` as written in util.go** (`Gen.Util.undelta`, regenerated on every run: the `make`, the `range` loop with its
in-place prefix sums) **is the model's `undelta`** on the 64-bit patterns (`B x` = the int64 holding `x`; Go's additions wrap and
reduction modulo 2^64 commutes with them) -/
theorem go_undelta_is_model (v : Int) (ds : List Int) :
    (Gen.Util.undelta v ds).map UndeltaTie.B = undelta (UndeltaTie.B v) (ds.map UndeltaTie.B) :=
  UndeltaTie.undelta_tie v ds

/-- so the decoder's last step, as written in Go, inverts the encoder's deltas: whenever the decoded deltas are the wrapping
differences of a metric's values, `undelta` returns the starting value followed by exactly those values -/
theorem go_undelta_inverts_deltas (v : Int) (ds : List Int) (xs : List I64)
    (h : ds.map UndeltaTie.B = deltas (UndeltaTie.B v) xs) :
    (Gen.Util.undelta v ds).map UndeltaTie.B = UndeltaTie.B v :: xs := by
  rw [go_undelta_is_model, h, undelta_deltas]

example : (Gen.Util.undelta 5 [1, 0, -7]) = [5, 6, 6, -1] := by decide
/-- `B` wraps: 2^63 - 1 plus 1 is -2^63 as an int64 -/
example : UndeltaTie.B (9223372036854775807 + 1) = UndeltaTie.B (-9223372036854775808) := by decide

end Ftdc.Props.C01
