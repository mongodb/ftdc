import FtdcVerif.Lemmas.Pipeline
import FtdcVerif.Model.Layer
import FtdcVerif.Gen.Facts
/-!
# C06 — Close or cancellation at any point stops every reader goroutine

In the `Pipeline` transition system `cancel` is a scheduler choice that can happen at any point
(after any number of `Next` calls, before the first, after exhaustion).  `producer_steps_decrease`,
`other_steps_do_not_increase` and `pot_zero_iff_exited` are the ingredients of "both producer goroutines have
exited after at most `pot s` of their own steps"; the count along a schedule is not assembled into a theorem.
"Bounded time" is bounded steps here; wall-clock time is the harness watchdog (DESIGN §6).
-/
namespace Ftdc.Props.C06
open Ftdc.Pipeline

/-- after cancellation no goroutine of the reader can be blocked forever: while one is alive,
one can move — for every reachable state (any input, any schedule, any cancel point) -/
theorem after_cancel_no_deadlock (items : List Item) (sched : List Pid)
    (hc : (run (init true items) sched).cancelled = true)
    (hlive : (run (init true items) sched).dpc ≠ .done ∨ (run (init true items) sched).cpc ≠ .done) :
    (step (run (init true items) sched) .d).isSome ∨ (step (run (init true items) sched) .c).isSome :=
  cancelled_no_deadlock (Fails items) _ (run_inv (Fails items) sched _ (init_inv items)) hc hlive

/-- The one arm that needs thought is the hand-off over `ipc`, which moves both goroutines: the comment at `Pipeline.dPot`
says how the constants pay for it. -/
theorem producer_steps_decrease (s s' : St) (p : Pid) (haf : s.addFirst = true)
    (hp : p = .d ∨ p = .c) (hs : step s p = some s') : pot s' < pot s := by
  revert hs
  fun_cases step s p <;> intro hs <;> cases hs <;> simp_all [pot, dPot, cPot] <;> omega

/-- the consumer and the cancel signal leave the potential as it is (an equality: they cannot resurrect a goroutine) -/
theorem other_steps_do_not_increase (s s' : St) (p : Pid) (hp : p = .u ∨ p = .cancel)
    (hs : step s p = some s') : pot s' = pot s := by
  revert hs
  fun_cases step s p <;> intro hs <;> cases hs <;> first | exact absurd hp (by decide) | rfl

theorem pot_zero_iff_exited (s : St) : pot s = 0 ↔ s.dpc = .done ∧ s.cpc = .done := by
  have hd : dPot s = 0 ↔ s.dpc = .done := by unfold dPot; cases s.dpc <;> simp
  have hc : cPot s = 0 ↔ s.cpc = .done := by unfold cPot; cases s.cpc <;> simp
  rw [pot, Nat.add_eq_zero_iff, hd, hc]

/-- once C (`readChunks` and its wrapper) has exited — it closes the pipe before it is done — the consumer gets the buffered
chunks and then `false`: `Next` is never blocked -/
theorem next_after_exit_never_blocks (items : List Item) (sched : List Pid)
    (hd : (run (init true items) sched).cpc = .done) (hu : (run (init true items) sched).upc = .next) :
    (step (run (init true items) sched) .u).isSome := by
  have hcl := (run_inv (Fails items) sched _ (init_inv items)).c_done_closed hd
  simp only [step, hu, hcl, if_true]
  split <;> rfl

/-- cancelling twice is harmless: the second cancel is not even a step -/
theorem cancel_idempotent (s : St) (h : s.cancelled = true) : step s .cancel = none := by
  simp [step, h]

/-! non-vacuity: cancel with a full pipe and a producer blocked on its send -/
example : let s := run (init true [.good, .good, .good, .good]) [.d, .d, .c, .c, .d, .d, .c, .c, .d, .d, .c, .c, .cancel]
    s.cancelled = true ∧ s.cpc = .send ∧ (step s .c).isSome = true := by decide

end Ftdc.Props.C06

/-! ## the layers above the chunk iterator

Every document, matrix, series and per-chunk iterator is one more worker between an upstream
iterator and its own buffered pipe (`Model/Layer.lean`).  What the model assumes of the code is
regenerated from the source on every run and checked here: every `select` of the reader pipeline
has a cancel arm, no channel send stands outside a `select`, every `Close` cancels the iterator's
own context. -/
namespace Ftdc.Props.C06.Layers
open Ftdc.Layer

theorem every_select_has_cancel_arm : Ftdc.Gen.selectFacts.all (·.2) = true := by decide

theorem no_bare_send : Ftdc.Gen.bareSends = [] := by decide

theorem every_close_cancels : Ftdc.Gen.closeFacts.all (·.2) = true := by decide

/-- the facts are about the functions the model is a model of -/
theorem facts_present :
    (Ftdc.Gen.selectFacts.map (·.1)) = ["read..readDiagnostic#0", "read..readChunks#0",
      "iterator_combined.combinedIterator.worker#0", "iterator_matrix.matrixIterator.worker#0",
      "iterator_sample.Chunk.streamFlattenedDocuments#0", "iterator_sample.Chunk.streamDocuments#0"] ∧
    (Ftdc.Gen.closeFacts.map (·.1)) = ["iterator_chunk.ChunkIterator.Close", "iterator_combined.combinedIterator.Close",
      "iterator_matrix.matrixIterator.Close", "iterator_sample.sampleIterator.Close"] :=
  ⟨rfl, rfl⟩

/-- After Close/cancel (and once the layer below has closed, which is its own theorem) the worker
of a layer is never blocked. -/
theorem layer_worker_never_blocked (s : St) (hc : s.cancelled = true) (hu : s.upClosed = true)
    (hd : s.wpc ≠ .done) : ∃ a, isWorker a = true ∧ (step s a).isSome = true := by
  cases hw : s.wpc with
  | done => exact absurd hw hd
  | recv =>
    refine ⟨.wRecv, rfl, ?_⟩
    simp only [step, hw, ne_eq, not_true_eq_false, if_false, hu]
    split <;> simp
  | send => exact ⟨.wAbort, rfl, by simp [step, hw, hc]⟩

/-- ... and each of its steps strictly decreases a natural-number potential, which is at most
`2·buffered + 2`, whatever the consumer and the scheduler do -/
theorem layer_worker_steps_decrease (s s' : St) (a : Act) (hc : s.cancelled = true) (hu : s.upClosed = true)
    (hw : isWorker a = true) (h : step s a = some s') :
    pot s' < pot s ∧ s'.cancelled = true ∧ s'.upClosed = true := by
  revert h
  fun_cases step s a <;> intro h <;> cases h <;> cases hw <;> refine ⟨?_, hc, hu⟩ <;> simp_all [pot]
  -- left: receiving one of `b > 0` buffered items, `2 * (b - 1) + 2 < 2 * b + 1`
  omega

theorem layer_other_steps_keep (s s' : St) (a : Act) (hc : s.cancelled = true) (hu : s.upClosed = true)
    (hw : isWorker a = false) (h : step s a = some s') :
    pot s' ≤ pot s ∧ s'.cancelled = true ∧ s'.upClosed = true := by
  revert h
  fun_cases step s a <;> intro h <;> cases h <;> cases hw <;> simp_all [pot]

def LInv (cap : Nat) (s : St) : Prop :=
  s.pipeCap = cap ∧ (s.wpc = .done → s.pipeClosed = true) ∧ s.pipeLen ≤ cap

theorem step_inv (cap : Nat) (s : St) (a : Act) (s' : St) (hi : LInv cap s) (h : step s a = some s') :
    LInv cap s' := by
  obtain ⟨h0, h1, h2⟩ := hi
  revert h
  fun_cases step s a <;> intro h <;> cases h <;> refine ⟨h0, ?_, ?_⟩ <;>
    first | assumption | (simp only []; omega) | simp

/-- `Next` after the worker has exited never blocks: the pipe is closed, so the consumer gets
the at most `cap` buffered items and then `false` -/
theorem layer_next_after_exit (cap : Nat) (sched : List Act) :
    let s := run { pipeCap := cap } sched
    s.wpc = .done → s.pipeClosed = true ∧ s.pipeLen ≤ cap := fun hd =>
  have h := Sched.foldl_inv (step_inv cap) sched { pipeCap := cap } ⟨rfl, by simp, by simp⟩
  ⟨h.2.1 hd, h.2.2⟩

/-! non-vacuity: a full pipe, the worker blocked on its send, then Close -/
example : let s := run { pipeCap := 2 } [.upProduce, .upProduce, .upProduce, .wRecv, .wSend, .wRecv, .wSend, .wRecv, .cancel, .upClose]
    s.wpc = .send ∧ s.pipeLen = 2 ∧ (step s .wSend).isSome = false ∧ (step s .wAbort).isSome = true := by decide

end Ftdc.Props.C06.Layers
