import FtdcVerif.Lemmas.Recorders
/-!
# C15 — every recorder persists exactly what its documented policy says

`Recorders.step` is the per-implementation reference model (one step function, eight kinds; the
synchronized and stdlib-shim wrappers delegate unchanged); it is compared with all ten
constructors on every generated call history.  The theorems below are the clauses of the documented policy,
for every state.
-/
namespace Ftdc.Props.C15
open Ftdc.Recorders

/-- Persist moments: only EndIteration and EndTest ever hand a sample to the collector -/
theorem only_end_calls_persist (s : RState) (op : ROp)
    (h1 : ∀ d, op ≠ .endIter d) (h2 : op ≠ .endTest) : (step s op).2.persisted = [] := by
  cases op with
  | endIter d => exact absurd rfl (h1 d)
  | endTest => exact absurd rfl h2
  | _ => rfl

/-- the single, interval and their histogram variants never persist at EndIteration -/
theorem accumulate_only_kinds (s : RState) (d : Int)
    (hk : s.kind = .single ∨ s.kind = .interval ∨ s.kind = .histSingle ∨ s.kind = .histInterval) :
    (step s (.endIter d)).2.persisted = [] := by
  rcases hk with h | h | h | h <;> simp only [step, h]

/-- the raw recorder persists at every EndIteration (when the collector accepts the sample) -/
theorem raw_persists_every_iteration (s : RState) (d : Int) (hk : s.kind = .raw)
    (hacc : s.fails.contains s.adds = false) :
    ((step s (.endIter d)).2.persisted).length = 1 := by
  simp only [step, hk, persist, hacc]
  rfl

/-- the grouped recorder (`kind = .grouped`; its histogram variant `histGrouped` is not covered by this statement)
persists at EndIteration exactly when the interval has elapsed -/
theorem grouped_persists_iff_interval_elapsed (s : RState) (d : Int) (hk : s.kind = .grouped)
    (hacc : s.fails.contains s.adds = false) :
    ((step s (.endIter d)).2.persisted ≠ []) ↔ gate s = true := by
  by_cases hg : gate s = true
  · simp only [step, hk, hg, ite_true, persist, hacc]; simp
  · simp [step, hk, hg]

/-- Counters are sums of increments (performance recorders): each of the four increment calls adds exactly its
argument to its own counter; of "and touches no other" the one clause stated is that `IncOperations` leaves the
iteration count alone. -/
theorem increment_adds (s : RState) (v : Int) (hk : s.kind.isHist = false) :
    (step s (.incOps v)).1.p.ops = s.p.ops + v ∧ (step s (.incOps v)).1.p.n = s.p.n ∧
    (step s (.incSize v)).1.p.size = s.p.size + v ∧ (step s (.incErr v)).1.p.errors = s.p.errors + v ∧
    (step s (.incIter v)).1.p.n = s.p.n + v := by
  simp [step, hk]

/-- The setters, at the arguments `hop` lists (`setWorkers 0`, `setState 0`, `setFailed true`, `setID 0`, `setTime 0`), and
BeginIteration leave every counter alone.  Other arguments are not covered by this statement. -/
theorem setters_keep_counters (s : RState) (op : ROp) (hk : s.kind.isHist = false)
    (hop : op = .setWorkers 0 ∨ op = .setState 0 ∨ op = .setFailed true ∨ op = .setID 0 ∨ op = .setTime 0 ∨ op = .begin) :
    (step s op).1.p.ops = s.p.ops ∧ (step s op).1.p.size = s.p.size ∧ (step s op).1.p.errors = s.p.errors ∧
    (step s op).1.p.n = s.p.n := by
  rcases hop with h | h | h | h | h | h <;> subst h <;> simp [step, setTimestamp] <;> (repeat' split) <;> simp

theorem gauge_is_last_set (s : RState) (v : Int) (b : Bool) :
    (step s (.setWorkers v)).1.p.workers = v ∧ (step s (.setState v)).1.p.state = v ∧
    (step s (.setFailed b)).1.p.failed = b :=
  ⟨rfl, rfl, rfl⟩

/-- after Reset all state except the gauges is zero (for every kind) -/
theorem reset_keeps_only_gauges (s : RState) :
    let p := (step s .reset).1.p
    p.state = s.p.state ∧ p.workers = s.p.workers ∧ p.failed = s.p.failed ∧
    p.n = 0 ∧ p.ops = 0 ∧ p.size = 0 ∧ p.errors = 0 ∧ p.dur = 0 ∧ p.total = 0 ∧ p.id = 0 ∧
    p.ts = .zero ∧ p.elapsedParts = 0 ∧ p.hn.vals = [] ∧ p.hops.vals = [] ∧ p.hdur.vals = [] ∧
    p.htotal.vals = [] ∧ (step s .reset).1.started = false ∧ (step s .reset).1.nerrs = 0 := by
  simp [step, doReset, freshPoint, counterHist, timerHist]

/-- the same after EndTest, for the fields listed (the id, the elapsed parts and the histograms are not among them) -/
theorem endTest_keeps_only_gauges (s : RState) :
    let p := (step s .endTest).1.p
    p.state = s.p.state ∧ p.workers = s.p.workers ∧ p.failed = s.p.failed ∧
    p.n = 0 ∧ p.ops = 0 ∧ p.size = 0 ∧ p.errors = 0 ∧ p.dur = 0 ∧ p.total = 0 ∧
    p.ts = .zero ∧ (step s .endTest).1.started = false ∧ (step s .endTest).1.nerrs = 0 := by
  obtain ⟨s1, out, h, hp, -⟩ := step_endTest s
  rw [h]
  simp only [doReset, hp]
  simp [freshPoint]

/-- EndTest returns every error since the previous EndTest: the number it reports is the
catcher's count (collector failures and rejected histogram values), plus the failure of its own
final `Add` if that fails; and the count starts again from zero -/
theorem endTest_reports_accumulated_errors (s : RState) :
    ∃ k, (step s .endTest).2.endTestErrs = some k ∧ s.nerrs ≤ k ∧ k ≤ s.nerrs + 1 ∧
      (step s .endTest).1.nerrs = 0 := by
  obtain ⟨s1, out, h, -, hle, hge⟩ := step_endTest s
  exact ⟨s1.nerrs, by rw [h], hle, hge, by rw [h]; rfl⟩

/-- a failing collector call is counted and nothing is recorded for it -/
theorem failing_add_is_counted (s : RState) (h : s.fails.contains s.adds = true) :
    (persist s).2 = [] ∧ (persist s).1.nerrs = s.nerrs + 1 ∧ (persist s).1.adds = s.adds + 1 := by
  have hm : s.adds ∈ s.fails := by simpa using h
  simp [persist, hm]

/-- a histogram value outside the trackable range is reported as an error and not recorded -/
theorem rejected_value_is_counted (s : RState) (v : Int) (hk : s.kind.isHist = true)
    (hrej : (Ftdc.Hdr.recordValue s.p.hops.cfg v).isSome = false) :
    (step s (.incOps v)).1.nerrs = s.nerrs + 1 ∧ (step s (.incOps v)).1.p.hops.vals = s.p.hops.vals := by
  simp [step, hk, recH, H.record, hrej, catchErr]

/-! non-vacuity: the F14 history — a grouped histogram recorder with a 1 h interval persists
nothing at EndIteration -/
example : (run { kind := .histGrouped, intervalZero := false } [.incOps 3, .endIter 2, .endIter 2]).2.map
    (·.persisted.length) = [0, 0, 0] := by decide

end Ftdc.Props.C15
