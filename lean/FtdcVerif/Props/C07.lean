import FtdcVerif.Lemmas.StreamSteps
import FtdcVerif.Lemmas.EndToEnd
/-!
# C07 — collectors are faithful, bounded logs under every operation history

`COp` is the collector interface; `Better.accepted` is the specification log (the samples whose
`Add` returned nil since the last `Reset`).  The base and batch collectors are proved here over
*all* operation lists, the streaming and schema-aware streaming collectors over all sequences of
`Add` (C09 adds `Flush`, `Reset`, `SetMetadata` and write faults); the dynamic collector, whose
chunks are batch collectors, is C08's `dynamic_faithful_all_histories`.  All of them are also
compared with the implementation over exhaustive short and random long histories by the `hist` stream.
-/
namespace Ftdc.Props.C07
open Ftdc

/-- **Faithful log (base collector), every history**: what the collector holds — and what
`Resolve` renders — is exactly the samples accepted since the last `Reset`, once, in order. -/
theorem base_faithful_log (n : Nat) (ops : List COp) :
    ((({ maxDeltas := n } : Better).run ops).samples) = Better.accepted { maxDeltas := n } [] ops := by
  have := Better.faithful_log ops { maxDeltas := n }
  simpa [Better.samples] using this

/-- `Resolve` renders exactly the held samples. -/
theorem base_resolve_is_log (c : Better) (o : List OutDoc) (h : c.resolve = some o) :
    (o.map OutDoc.samples).flatten = c.samples :=
  Better.resolve_samples c o h

/-- `Resolve` fails exactly when no sample is held. -/
theorem base_resolve_fails_iff_empty (c : Better) : c.resolve = none ↔ c.samples = [] :=
  Better.resolve_none_iff c

/-- **Bounded, every history**: a chunk never holds more than its capacity (the base collector's
documented N + 1: the reference sample does not count). -/
theorem base_chunk_bounded (n : Nat) (ops : List COp) :
    ((({ maxDeltas := n } : Better).run ops).samples).length ≤ n + 1 := by
  have := Better.samples_bounded _ (Better.run_inv ops _ (Better.fresh_inv n))
  rwa [Better.run_maxDeltas] at this

/-- the reported sample count is the number of held (accepted, not discarded) samples -/
theorem base_info_counts (n : Nat) (ops : List COp) :
    (({ maxDeltas := n } : Better).run ops).info.2 = ((({ maxDeltas := n } : Better).run ops).samples).length :=
  Better.info_counts_samples _ (Better.run_inv ops _ (Better.fresh_inv n))

/-- a rejected `Add` (capacity, metric count, value types) changes nothing -/
theorem base_rejected_add_noop (c : Better) (d : BDoc) (h : (c.add d).2 ≠ .ok) : (c.add d).1 = c :=
  Better.add_rejected_noop c d h

/-- `Reset` discards every sample; the collector then accepts a first sample like a fresh one -/
theorem base_reset_discards (c : Better) (d : BDoc) :
    c.reset.samples = [] ∧ (c.reset.add d).2 = .ok ∧ (c.reset.add d).1.samples = [(extractDoc d).map (·.1)] := by
  simp [Better.reset, Better.samples, Better.add]

/-- batch collector: an accepted `Add` appends exactly that sample — in every reachable state (`Batch.Inv` holds
initially and is preserved by `Add`; `Reset` re-creates the initial state) -/
theorem batch_add_appends (b : Batch) (d : BDoc) (hi : b.Inv) (h : (b.add d).2 = .ok) :
    (b.add d).1.samples = b.samples ++ [(extractDoc d).map (·.1)] :=
  Batch.add_ok_appends b d hi h

/-- batch collector: a rejected `Add` changes nothing, in every reachable state -/
theorem batch_rejected_add_noop (b : Batch) (d : BDoc) (hi : b.Inv) (h : (b.add d).2 ≠ .ok) :
    (b.add d).1 = b :=
  Batch.add_rejected_noop b d hi h

/-- after any sequence of `Add`s chunks hold at most N samples and only the last chunk may hold fewer -/
theorem batch_chunks_bounded_all_histories (n : Nat) (hn : 1 ≤ n) (ds : List BDoc) :
    (∀ c ∈ (ds.foldl (fun b d => (b.add d).1) (Batch.new n)).chunks, c.samples.length ≤ n) ∧
    (∀ c ∈ (ds.foldl (fun b d => (b.add d).1) (Batch.new n)).chunks.dropLast, c.samples.length = n) := by
  obtain ⟨hi, hm⟩ := Batch.run_inv n ds (Batch.new n) ⟨Batch.new_inv n hn, rfl⟩
  exact ⟨fun c hc => hm ▸ (hi.each c hc).2.2, fun c hc => hm ▸ hi.full c hc⟩

/-! ### the batch collector over whole histories (Add, Reset, SetMetadata, Resolve, Info in any order) -/

def addLogB (acc : Batch × List BDoc) (d : BDoc) : Batch × List BDoc :=
  let r := acc.1.add d
  (r.1, if r.2 = .ok then acc.2 ++ [d] else acc.2)

def stepB (acc : Batch × List BDoc) : COp → Batch × List BDoc
  | .add d => addLogB acc d
  | .reset => (acc.1.reset, [])
  | .setMeta d => (acc.1.setMetadata d, acc.2)
  | _ => acc

theorem better_setMetadata_same (x : Better) (d : BDoc) :
    ((x.setMetadata d).Inv ↔ x.Inv) ∧ (x.setMetadata d).maxDeltas = x.maxDeltas ∧ (x.setMetadata d).samples = x.samples :=
  ⟨Iff.rfl, rfl, rfl⟩

theorem batch_setMetadata_inv (b : Batch) (d : BDoc) (hi : b.Inv) :
    (b.setMetadata d).Inv ∧ (b.setMetadata d).samples = b.samples := by
  unfold Batch.setMetadata
  cases hc : b.chunks with
  | nil => exact ⟨hi, rfl⟩
  | cons x r =>
    -- `setMetadata` changes the first chunk's `metadata` field only, which the invariant does not mention
    have he := hi.each
    have hf := hi.full
    rw [hc] at he hf
    refine ⟨{ pos := hi.pos, ne := by simp, each := ?_, full := ?_ }, by simp [Batch.samples, hc]; rfl⟩
    · exact List.forall_mem_cons.2 (List.forall_mem_cons.1 he)
    · cases r with
      | nil => simp
      | cons y r' => exact List.forall_mem_cons.2 (List.forall_mem_cons.1 hf)

/-- **C07 for the batch collector over whole histories**: the samples it holds are exactly the documents accepted since
the last `Reset`, once each and in order, and every chunk but the last is full -/
theorem batch_faithful_all_histories (n : Nat) (hn : 1 ≤ n) (ops : List COp) :
    let r := ops.foldl stepB (Batch.new n, [])
    r.1.Inv ∧ r.1.maxSamples = n ∧ r.1.samples = r.2.map fun x => (extractDoc x).map (·.1) := by
  refine List.foldlRecOn (motive := fun r => r.1.Inv ∧ r.1.maxSamples = n ∧ r.1.samples = r.2.map vals) ops stepB
    (b := (Batch.new n, [])) ⟨Batch.new_inv n hn, rfl, rfl⟩ ?_
  rintro ⟨b, acc⟩ ⟨hi, hm, h⟩ op _
  cases op with
  | add d =>
    refine ⟨Batch.add_inv b d hi, (Batch.add_maxSamples b d).trans hm, ?_⟩
    show (b.add d).1.samples = (if (b.add d).2 = .ok then acc ++ [d] else acc).map vals
    split
    · next hok => rw [Batch.add_ok_appends b d hi hok, h]; simp [vals]
    · next hok => rw [Batch.add_rejected_noop b d hi hok]; exact h
  | reset => exact ⟨by show (Batch.new b.maxSamples).Inv; rw [hm]; exact Batch.new_inv n hn, hm, rfl⟩
  | setMeta d =>
    obtain ⟨a1, a2⟩ := batch_setMetadata_inv b d hi
    exact ⟨a1, (Batch.setMetadata_maxSamples b d).trans hm, a2.trans h⟩
  | _ => exact ⟨hi, hm, h⟩

/-- **The batch collector holds exactly the accepted samples, once each and in order**, after any
sequence of `Add`s (across every chunk roll-over) -/
theorem batch_faithful_log (n : Nat) (hn : 1 ≤ n) (ds : List BDoc) :
    let r := ds.foldl addLogB (Batch.new n, [])
    r.1.samples = r.2.map fun x => (extractDoc x).map (·.1) := by
  have := (batch_faithful_all_histories n hn (ds.map .add)).2.2
  simp only [List.foldl_map] at this
  exact this

/-! ### the streaming collector: writer ++ pending = accepted, over sequences of `Add`s -/

def addLog (acc : Streaming × List BDoc) (d : BDoc) : Streaming × List BDoc :=
  let r := acc.1.add d
  (r.1, if r.2 = .ok then acc.2 ++ [d] else acc.2)

theorem resolve_samples (b : Better) (docs : List OutDoc) (h : b.resolve = some docs) :
    (docs.map OutDoc.samples).flatten = b.samples :=
  Better.resolve_samples b docs h

/-- **The streaming collector loses, duplicates and reorders nothing**: after any sequence of `Add`
calls over a writer that accepts every write, the samples in the writer followed by the pending
ones are exactly the accepted samples, once each and in order. -/
theorem streaming_faithful_log (n : Nat) (ds : List BDoc) :
    let r := ds.foldl addLog (Streaming.new n, [])
    writtenRows r.1.out ++ r.1.inner.samples = r.2.map fun x => (extractDoc x).map (·.1) := by
  -- `content` and `vals` (Lemmas/StreamSteps, Lemmas/Codec) unfold to the statement's terms
  exact List.foldlRecOn (motive := fun r => r.1.content = r.2.map vals) ds addLog (b := (Streaming.new n, [])) rfl
    fun r h d _ => r.1.add_log d h

def addLogSD (acc : StreamingDynamic × List BDoc) (d : BDoc) : StreamingDynamic × List BDoc :=
  let r := acc.1.add d
  (r.1, if r.2 = .ok then acc.2 ++ [d] else acc.2)

/-- the same for the schema-aware streaming collector (schema changes flush early; nothing is
lost, duplicated or reordered across them) -/
theorem streaming_dynamic_faithful_log (n : Nat) (ds : List BDoc) :
    let r := ds.foldl addLogSD (StreamingDynamic.new n, [])
    writtenRows r.1.s.out ++ r.1.s.inner.samples = r.2.map fun x => (extractDoc x).map (·.1) := by
  exact List.foldlRecOn (motive := fun r => r.1.s.content = r.2.map vals) ds addLogSD
    (b := (StreamingDynamic.new n, [])) rfl fun r h d _ => r.1.add_log d h

/-! ### ... and everything in the writer is decodable -/

/-- documents the byte-level round trip (C01) applies to (where the two bounds come from: `decode_payload_of_counts`) -/
def DocOK (d : BDoc) : Prop :=
  WFDoc d ∧ (serDoc d).length < 2 ^ 31 ∧ NoTs d ∧ (extractDoc d).length < 2 ^ 32

/-- a chunk the reader decodes back to exactly its rows.  `rows.length < 2 ^ 32`: the count is written as a `uint32`; the
chunks of a collector with chunk size `n < 2 ^ 32` meet it (`betterOK_resolve`). -/
def ChunkOK : OutDoc → Prop
  | .metaDoc _ _ => True
  | .chunk _ ref first rows =>
    DocOK ref ∧ first = vals ref ∧ (∀ r ∈ rows, r.length = first.length) ∧ rows.length < 2 ^ 32

theorem chunkOK_decodes_ref (id : Ts) (ref : BDoc) (first : Row) (rows : List Row)
    (h : ChunkOK (.chunk id ref first rows)) :
    ∃ c, decodePayload (payloadOf ref first rows) = .ok c ∧ c.ref = ref ∧ c.rows = first :: rows := by
  obtain ⟨⟨hw, hl, hts, hnm⟩, hf, hr, hn⟩ := h
  subst hf
  have hnm' : (vals ref).length < 2 ^ 32 := by simpa [vals] using hnm
  exact decode_payload_of_counts ref rows hw hl hts hr hnm' hn

theorem chunkOK_decodes (id : Ts) (ref : BDoc) (first : Row) (rows : List Row)
    (h : ChunkOK (.chunk id ref first rows)) :
    ∃ c, decodePayload (OutDoc.chunk id ref first rows).payload = .ok c ∧
      c.rows = (OutDoc.chunk id ref first rows).samples := by
  obtain ⟨c, h1, _, h3⟩ := chunkOK_decodes_ref id ref first rows h
  exact ⟨c, h1, h3⟩

/-- what the inner collector of a streaming collector satisfies when only `DocOK` documents are added -/
structure BetterOK (n : Nat) (b : Better) : Prop where
  inv : b.Inv
  maxD : b.maxDeltas = n
  ref : ∀ r, b.ref = some r → DocOK r ∧ b.first = vals r

theorem betterOK_add (n : Nat) (b : Better) (d : BDoc) (hd : DocOK d) (h : BetterOK n b) : BetterOK n (b.add d).1 := by
  refine ⟨Better.add_inv b d h.inv, (Better.add_maxDeltas b d).trans h.maxD, ?_⟩
  fun_cases Better.add b d
  · rintro r ⟨⟩
    exact ⟨hd, rfl⟩
  all_goals exact h.ref

theorem betterOK_resolve (n : Nat) (hn : n < 2 ^ 32) (b : Better) (h : BetterOK n b) (docs : List OutDoc)
    (hres : b.resolve = some docs) : ∀ o ∈ docs, ChunkOK o := by
  obtain ⟨⟨_, hlen, hshape⟩, hmax, hr⟩ := h
  cases hb : b.ref with
  | none => simp [Better.resolve, hb] at hres
  | some r =>
    obtain ⟨hdoc, hfirst⟩ := hr r hb
    obtain ⟨hwfirst, hwrows⟩ := hshape (by simp [hb])
    have hcount : b.rows.length ≤ n := hmax ▸ hlen
    rw [Better.resolve_of_ref hb, Option.some.injEq] at hres
    subst hres
    -- a metadata document is `ChunkOK` by definition; the chunk: its reference document and first row by `BetterOK.ref`,
    -- the width of its rows by `Better.Inv`, their number by the chunk size
    exact List.forall_mem_append.2 ⟨List.forall_mem_map.2 fun _ _ => trivial,
      List.forall_mem_singleton.2
        ⟨hdoc, hfirst, fun row hrow => (hwrows row hrow).trans hwfirst.symm, Nat.lt_of_le_of_lt hcount hn⟩⟩

/-- every document in the complete writes of a writer -/
def loggedDocs (w : Writer) : List OutDoc :=
  (w.log.map fun e => match e with
    | WEntry.full docs => docs
    | WEntry.partialWrite _ _ => []).flatten

theorem loggedDocs_eq : loggedDocs = logDocs := rfl

/-- invariant of a streaming collector over a writer that never fails, fed with `DocOK` documents -/
structure SOK (n : Nat) (c : Streaming) : Prop where
  script : c.out.script = []
  logged : ∀ o ∈ loggedDocs c.out, ChunkOK o
  inner : BetterOK n c.inner

theorem betterOK_fresh (n : Nat) : BetterOK n ({ maxDeltas := n } : Better) :=
  ⟨Better.fresh_inv n, rfl, by intro r hr; simp at hr⟩

theorem sok_flush (n : Nat) (hn : n < 2 ^ 32) (c : Streaming) (h : SOK n c) : SOK n (c.flush).1 := by
  obtain ⟨hs, hl, hb⟩ := h
  cases hr : c.inner.ref with
  | none => rw [Streaming.flush_of_no_ref hb.inv hr]; exact ⟨hs, hl, hb⟩
  | some r =>
    rw [Streaming.flush_of_ref hs hr]
    refine ⟨hs, ?_, Better.reset_inv _, hb.maxD, nofun⟩
    show ∀ o ∈ logDocs { c.out with log := _ }, ChunkOK o
    rw [Writer.logDocs_full]
    exact List.forall_mem_append.2 ⟨hl, betterOK_resolve n hn c.inner hb _ (Better.resolve_of_ref hr)⟩

theorem sok_add (n : Nat) (hn : n < 2 ^ 32) (c : Streaming) (d : BDoc) (hd : DocOK d) (h : SOK n c) :
    SOK n (c.add d).1 := by
  have hi : ∀ c1, SOK n c1 → SOK n (c1.addInner d).1 := fun c1 h1 => by
    unfold Streaming.addInner; split
    · exact ⟨h1.script, h1.logged, betterOK_add n c1.inner d hd h1.inner⟩
    · exact h1
  have hf := sok_flush n hn c h
  rcases Streaming.add_cases c d with ⟨_, e⟩ | ⟨_, _, e⟩ | ⟨_, _, e⟩ <;> rw [e]
  · exact hi c h
  · exact hf
  · exact hi _ hf

theorem addLog_fst (ds : List BDoc) (c : Streaming) (acc : List BDoc) :
    (ds.foldl addLog (c, acc)).1 = ds.foldl (fun (c : Streaming) d => (c.add d).1) c :=
  (List.foldl_hom Prod.fst fun _ _ => rfl).symm

theorem sok_run (n : Nat) (hn : n < 2 ^ 32) (ds : List BDoc) (hds : ∀ d ∈ ds, DocOK d) :
    SOK n (ds.foldl (fun (c : Streaming) d => (c.add d).1) (Streaming.new n)) :=
  List.foldlRecOn ds _ ⟨rfl, by simp [loggedDocs, Streaming.new], betterOK_fresh n⟩
    fun c h d hd => sok_add n hn c d (hds d hd) h

theorem loggedDocs_samples (w : Writer) : ((loggedDocs w).map OutDoc.samples).flatten = writtenRows w := by
  symm
  unfold writtenRows loggedDocs
  induction w.log with
  | nil => rfl
  | cons e l ih => cases e <;> simp [ih]

/-- **Everything a streaming collector has handed to its writer is decodable, and what it decodes to,
followed by the pending samples, is exactly the accepted samples — once each, in order**: for every
sequence of `Add`s of well-formed documents (any schemas, rejected ones included) over a writer that
accepts every write. -/
theorem streaming_writer_decodes_to_accepted (n : Nat) (hn : n < 2 ^ 32) (ds : List BDoc) (hds : ∀ d ∈ ds, DocOK d) :
    let r := ds.foldl addLog (Streaming.new n, [])
    (∀ o ∈ loggedDocs r.1.out, ∃ c, decodePayload o.payload = .ok c ∧ c.rows = o.samples ∨ o.samples = []) ∧
    ((loggedDocs r.1.out).map OutDoc.samples).flatten ++ r.1.inner.samples =
      r.2.map fun x => (extractDoc x).map (·.1) := by
  refine ⟨fun o ho => ?_, by rw [loggedDocs_samples]; exact streaming_faithful_log n ds⟩
  rw [addLog_fst] at ho
  have hck := (sok_run n hn ds hds).logged o ho
  cases o with
  | metaDoc id doc => exact ⟨default, Or.inr rfl⟩
  | chunk id ref first rows =>
    obtain ⟨c, h1, h2⟩ := chunkOK_decodes id ref first rows hck
    exact ⟨c, Or.inl ⟨h1, h2⟩⟩

/-! ### the batch collector's output is decodable too -/

theorem batch_chunks_ok (n : Nat) (b : Batch) (d : BDoc) (hd : DocOK d) (hm : b.maxSamples = n)
    (h : ∀ c ∈ b.chunks, BetterOK n c) : (∀ c ∈ (b.add d).1.chunks, BetterOK n c) ∧ (b.add d).1.maxSamples = n := by
  refine ⟨?_, (Batch.add_maxSamples b d).trans hm⟩
  by_cases hne : b.chunks = []
  · simp [Batch.add, hne]
  · have hc := (List.dropLast_concat_getLast hne).symm
    by_cases hf : (b.chunks.getLast hne).info.2 ≥ b.maxSamples
    · rw [Batch.add_full d hc hf, hm]
      exact List.forall_mem_append.2 ⟨h, List.forall_mem_singleton.2 (betterOK_add n _ d hd (betterOK_fresh n))⟩
    · rw [Batch.add_room d hc hf]
      exact List.forall_mem_append.2 ⟨fun c hc' => h c (List.dropLast_subset _ hc'),
        List.forall_mem_singleton.2 (betterOK_add n _ d hd (h _ (List.getLast_mem hne)))⟩

/-- **Everything the batch collector resolves to is decodable**: after any sequence of `Add`s of
well-formed documents every metric chunk of `Resolve`'s output satisfies `ChunkOK`, hence
(`chunkOK_decodes`) is decoded by the reader model to exactly the samples it holds -/
theorem batch_output_decodes (n : Nat) (hn : n < 2 ^ 32) (ds : List BDoc) (hds : ∀ d ∈ ds, DocOK d)
    (out : List OutDoc) (hres : (ds.foldl (fun b d => (b.add d).1) (Batch.new n)).resolve = some out) :
    ∀ o ∈ out, ChunkOK o := by
  obtain ⟨hck, _⟩ := List.foldlRecOn (motive := fun b => (∀ c ∈ b.chunks, BetterOK n c) ∧ b.maxSamples = n) ds
    (fun b d => (b.add d).1) (b := Batch.new n)
    ⟨by intro c hc; simp [Batch.new] at hc; subst hc; exact betterOK_fresh n, rfl⟩
    fun b h d hd => batch_chunks_ok n b d (hds d hd) h.2 h.1
  rw [Batch.resolve_some hres]
  intro o ho
  obtain ⟨l, hl, hol⟩ := List.mem_flatten.1 ho
  obtain ⟨c, hcm, hc⟩ := List.mem_filterMap.1 hl
  exact betterOK_resolve n hn c (hck c hcm) l hc o hol

/-! non-vacuity: a concrete history -/
example : (({ maxDeltas := 1 } : Better).run
    [.add (.cons [97] (.int64 1#64) .nil), .add (.cons [97] (.int64 2#64) .nil),
     .add (.cons [97] (.int64 3#64) .nil), .resolve, .info]).samples = [[1#64], [2#64]] := by
  decide

end Ftdc.Props.C07
