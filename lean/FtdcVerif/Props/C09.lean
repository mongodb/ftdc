import FtdcVerif.Lemmas.Reader
import FtdcVerif.Props.C04
import FtdcVerif.Props.C07
/-!
# C09 — streamed output is crash-consistent and survives writer faults

Crash points: the writer's byte log is a concatenation of framed documents (`serDoc_wellFramed`).  For *every* byte
offset the prefix ends at a document boundary — then the reader yields exactly the fold over the whole documents in it,
without a framing error — or inside a document — then it reports an error and still delivers the chunks of the whole
documents before the cut.  Faults: a failing or short write makes the flush return an error and leaves every pending
sample in place; a failing flush inside `Add` rejects that `Add`.  Over whole histories (every operation, every script
of write results) the complete writes followed by the pending samples are exactly what was accepted, and never more
than `N` accepted samples are outside the complete writes (the durability bound).
-/
namespace Ftdc.Props.C09
open Ftdc

/-- what a streaming collector writes is framed: every serialised document is a framed document -/
theorem written_documents_are_framed (d : BDoc) (h : (serDoc d).length < 2 ^ 31) :
    WellFramed (serDoc d) :=
  serDoc_wellFramed d h

/-- **crash at a document boundary**: the prefix made of the first `j` documents decodes to
exactly the fold over those documents (no framing error is introduced by the cut) -/
theorem prefix_at_boundary (inflate : Inflate) (dbs : List Bytes) (j : Nat)
    (h : ∀ db ∈ dbs, WellFramed db) :
    readAll inflate (dbs.take j).flatten = (processDocs inflate (.running none []) (dbs.take j)).result :=
  readAll_framed inflate (dbs.take j) (fun db hdb => h db (List.mem_of_mem_take hdb))

/-- **crash inside a document**: for every document `db` of the stream and every cut `0 < k <
|db|`, the prefix that ends `k` bytes into `db` reports an error, and every chunk wholly
contained in the prefix is still delivered -/
theorem prefix_inside_document (inflate : Inflate) (pre : List Bytes) (db : Bytes) (k : Nat)
    (hpre : ∀ x ∈ pre, WellFramed x) (hdb : WellFramed db) (h0 : 0 < k) (hk : k < db.length) :
    (readAll inflate (pre.flatten ++ db.take k)).err ≠ none ∧
    (readAll inflate pre.flatten).chunks <+: (readAll inflate (pre.flatten ++ db.take k)).chunks :=
  ⟨C04.cut_stream_reports_error inflate pre (db.take k) hpre (take_incomplete hdb k h0 hk),
   C04.intact_prefix_delivered inflate pre (db.take k) hpre⟩

/-- the case split behind the two theorems above: an offset into a document is its start or its end
(document boundaries) or lies strictly inside -/
theorem every_offset_is_boundary_or_inside (db : Bytes) (k : Nat) (hk : k ≤ db.length) :
    k = 0 ∨ k = db.length ∨ (0 < k ∧ k < db.length) := by omega

/-- chunks delivered for a shorter prefix are delivered for every longer one (nothing already
durable is lost or reordered by later writes) -/
theorem longer_prefix_keeps_chunks (inflate : Inflate) (dbs : List Bytes) (tail : Bytes)
    (h : ∀ db ∈ dbs, WellFramed db) :
    (readAll inflate dbs.flatten).chunks <+: (readAll inflate (dbs.flatten ++ tail)).chunks :=
  C04.intact_prefix_delivered inflate dbs tail h

/-! ### writer faults -/

/-- a failing write (nothing consumed): the flush reports the error and every pending sample,
the count and the metadata stay in place; nothing is added to the log -/
theorem failed_write_keeps_pending (c : Streaming) (s : List WriteResult) (docs : List OutDoc)
    (hs : c.out.script = .fail :: s) (hp : c.info.2 ≠ 0) (hr : c.resolve = some docs) :
    (c.flush).2 = false ∧ (c.flush).1.inner = c.inner ∧ (c.flush).1.count = c.count ∧
    (c.flush).1.out.log = c.out.log := by
  rw [Streaming.flush_of_resolve hp hr]
  simp [Writer.write, hs]

/-- a short write (some bytes consumed, error or short count): same, except that the partial
write is visible in the writer's log -/
theorem short_write_keeps_pending (c : Streaming) (n : Nat) (s : List WriteResult) (docs : List OutDoc)
    (hs : c.out.script = .short n :: s) (hp : c.info.2 ≠ 0) (hr : c.resolve = some docs) :
    (c.flush).2 = false ∧ (c.flush).1.inner = c.inner ∧ (c.flush).1.count = c.count := by
  rw [Streaming.flush_of_resolve hp hr]
  simp [Writer.write, hs]

/-- a successful write appends exactly the resolved documents to the log and empties the
collector: the samples become durable exactly once -/
theorem successful_flush_moves_samples (c : Streaming) (docs : List OutDoc)
    (hs : c.out.script = [] ∨ ∃ s, c.out.script = .ok :: s) (hp : c.info.2 ≠ 0)
    (hr : c.resolve = some docs) :
    (c.flush).2 = true ∧ (c.flush).1.out.log = c.out.log ++ [.full docs] ∧
    (c.flush).1.inner.samples = [] ∧ (c.flush).1.count = 0 := by
  rw [Streaming.flush_of_resolve hp hr]
  rcases hs with hs | ⟨s, hs⟩ <;> simp [Writer.write, hs, Streaming.reset, Better.reset, Better.samples]

/-- an `Add` whose implicit flush fails is rejected and leaves the pending samples alone -/
theorem add_with_failing_flush_is_rejected (c : Streaming) (d : BDoc)
    (hfull : c.count ≥ c.maxSamples) (hfail : (c.flush).2 = false) :
    (c.add d).2 = .flushErr ∧ (c.add d).1 = (c.flush).1 := by
  simp [Streaming.add, hfull, hfail]

/-- ... and once the writer accepts data again, the retried `Add` flushes the pending samples and hands
the new one to the emptied collector: unless it reports an error, the wrapped collector is the flushed
one with the sample added -/
theorem retry_after_fault (c : Streaming) (d : BDoc)
    (hfull : c.count ≥ c.maxSamples) (hok : (c.flush).2 = true) :
    (c.add d).1.inner = ((c.flush).1.inner.add d).1 ∨ (c.add d).2 ≠ .ok := by
  unfold Streaming.add
  simp only [hfull, ite_true, hok, Bool.not_true, Bool.false_eq_true, ite_false]
  by_cases h : ((c.flush).1.inner.add d).2 = .ok
  · left; simp [h]
  · right; simp [h]

/-! non-vacuity of the framing hypothesis -/
example : WellFramed (serDoc (.cons [97] (.int64 1#64) .nil)) := by
  apply serDoc_wellFramed
  simp [serDoc_length, serElems, serVal, le64_length]

/-! ### the durability bound -/

/-- samples in the complete writes of a writer -/
def written (w : Writer) : Nat :=
  (w.log.map fun e => match e with
    | .full docs => (docs.map fun d => d.samples.length).sum
    | .partialWrite _ _ => 0).sum

/-- run a list of `Add`s; returns the collector and the number of accepted samples -/
def runAdds (c : Streaming) (ds : List BDoc) : Streaming × Nat :=
  ds.foldl (fun (acc : Streaming × Nat) d =>
    let r := acc.1.add d
    (r.1, if r.2 = .ok then acc.2 + 1 else acc.2)) (c, 0)

/-- invariant of a streaming collector over a writer that never fails (the proofs use `DI` below, which does not assume that) -/
structure DInv (N : Nat) (c : Streaming) (k : Nat) : Prop where
  script : c.out.script = []
  maxS : c.maxSamples = N
  maxD : c.inner.maxDeltas = N
  cnt : c.count = c.inner.info.2
  le : c.count ≤ N
  refRows : c.inner.ref = none → c.inner.rows = []
  mult : ∃ q, written c.out = N * q
  cons : written c.out + c.count = k

/-- invariant behind the durability bound, under every script of write results; `k` counts the accepted samples -/
structure DI (N : Nat) (c : Streaming) (k : Nat) : Prop where
  maxS : c.maxSamples = N
  cnt : c.count = c.inner.samples.length
  le : c.count ≤ N
  mult : ∃ q, written c.out = N * q
  cons : written c.out + c.count = k

theorem written_write (w : Writer) (docs : List OutDoc) :
    written (w.write docs).1 = written w + (if (w.write docs).2 then (docs.map fun d => d.samples.length).sum else 0) := by
  unfold Writer.write; split <;> simp [written]

/-- a full pending chunk is written whole, or not at all -/
theorem di_flush (N : Nat) (hN : 1 ≤ N) (c : Streaming) (k : Nat) (h : DI N c k) (hfull : N ≤ c.count) :
    DI N (c.flush).1 k ∧ ((c.flush).2 = true → (c.flush).1.count = 0) := by
  obtain ⟨hm, hc, hle, ⟨q, hq⟩, hcons⟩ := h
  have hcN : c.count = N := Nat.le_antisymm hle hfull
  obtain ⟨r, hr⟩ : ∃ r, c.inner.ref = some r := by
    cases hx : c.inner.ref with
    | some r => exact ⟨r, rfl⟩
    | none =>
      rw [(Better.samples_eq_nil_iff _).2 hx, hcN] at hc
      exact absurd hc (Nat.ne_of_gt hN)
  have hrows : c.inner.rows.length + 1 = N := by
    rw [Better.samples_of_ref hr, hcN] at hc; exact hc.symm
  obtain ⟨docs, hres, hsum⟩ : ∃ docs, c.inner.resolve = some docs ∧ (docs.map fun d => d.samples.length).sum = N :=
    ⟨_, Better.resolve_of_ref hr, by cases c.inner.metadata <;> simp [OutDoc.samples, hrows]⟩
  have hw := written_write c.out docs
  rw [Streaming.flush_of_resolve (by simp [Streaming.info, Better.info, hr]) hres]
  split <;> rename_i hok <;> simp only [hok, if_true, Bool.false_eq_true, if_false, Nat.add_zero, hsum] at hw
  · have hmult : written (c.out.write docs).1 = N * (q + 1) := by rw [hw, hq, Nat.mul_add, Nat.mul_one]
    exact ⟨{
      maxS := hm
      cnt := by simp [Streaming.reset, Better.reset, Better.samples]
      le := Nat.zero_le _
      mult := ⟨q + 1, hmult⟩
      cons := hw.trans (hcN ▸ hcons) }, fun _ => rfl⟩
  · exact ⟨{
      maxS := hm
      cnt := hc
      le := hle
      mult := ⟨q, hw.trans hq⟩
      cons := by show written _ + c.count = k; rw [hw]; exact hcons }, fun h => by cases h⟩

theorem di_add (N : Nat) (hN : 1 ≤ N) (c : Streaming) (k : Nat) (d : BDoc) (h : DI N c k) :
    DI N (c.add d).1 (if (c.add d).2 = .ok then k + 1 else k) := by
  have inner : ∀ c1 : Streaming, DI N c1 k → c1.count < N →
      DI N (c1.addInner d).1 (if (c1.addInner d).2 = .ok then k + 1 else k) := by
    intro c1 h1 hlt
    by_cases hacc : (c1.inner.add d).2 = .ok
    · rw [Streaming.addInner_ok hacc, if_pos rfl]
      exact {
        maxS := h1.maxS
        cnt := by show c1.count + 1 = (c1.inner.add d).1.samples.length; rw [Better.add_ok_appends _ d hacc, h1.cnt]; simp
        le := Nat.succ_le_of_lt hlt
        mult := h1.mult
        cons := by show written c1.out + (c1.count + 1) = k + 1; rw [← Nat.add_assoc, h1.cons] }
    · rw [Streaming.addInner_rejected hacc, if_neg (by simp)]
      exact h1
  rcases Streaming.add_cases c d with ⟨hlt, e⟩ | ⟨hge, _, e⟩ | ⟨hge, hf, e⟩
  · rw [e]; exact inner c h (h.maxS ▸ hlt)
  · rw [e, if_neg (by simp)]; exact (di_flush N hN c k h (h.maxS ▸ hge)).1
  · obtain ⟨f1, f2⟩ := di_flush N hN c k h (h.maxS ▸ hge)
    rw [e]; exact inner _ f1 (by rw [f2 hf]; exact hN)

/-- **The durability bound under every writer script**: whatever the writer does (failing and short writes anywhere),
after any sequence of `Add`s of which `k` returned nil, at least `N·⌊(k−1)/N⌋` samples are in complete writes, and every
accepted sample is there or among the at most `N` pending ones.  (While the writer refuses a full chunk, every further
`Add` is refused: that is why the bound survives.) -/
theorem durability_bound_any_script (N : Nat) (hN : 1 ≤ N) (script : List WriteResult) (ds : List BDoc) :
    let r := runAdds { Streaming.new N with out := { script := script } } ds
    N * ((r.2 - 1) / N) ≤ written r.1.out ∧ written r.1.out + r.1.count = r.2 ∧ r.1.count ≤ N := by
  intro r
  obtain ⟨_, _, hle, ⟨q, hq⟩, hcons⟩ : DI N r.1 r.2 :=
    List.foldlRecOn (motive := fun (r : Streaming × Nat) => DI N r.1 r.2) ds _
      { maxS := rfl, cnt := rfl, le := Nat.zero_le _, mult := ⟨0, rfl⟩, cons := rfl }
      fun r h d _ => di_add N hN r.1 r.2 d h
  refine ⟨?_, hcons, hle⟩
  rw [hq]
  -- (k - 1) / N ≤ q  because  k = N*q + count  with  count ≤ N
  refine Nat.mul_le_mul_left _ ((Nat.div_le_iff_le_mul_add_pred hN).2 ?_)
  rw [← hcons, hq, ← Nat.add_sub_assoc hN]
  exact Nat.sub_le_sub_right (Nat.add_le_add_left hle _) 1

/-- **The durability bound**, as the property states it: over a writer that accepts every write, after any sequence of
`Add`s of which `k` were accepted, a streaming collector with chunk size `N ≥ 1` has handed at least `N·⌊(k−1)/N⌋`
samples to its writer, and every accepted sample is in the writer or among the at most `N` pending ones. -/
theorem durability_bound (N : Nat) (hN : 1 ≤ N) (ds : List BDoc) :
    let r := runAdds (Streaming.new N) ds
    N * ((r.2 - 1) / N) ≤ written r.1.out ∧ written r.1.out + r.1.count = r.2 ∧ r.1.count ≤ N :=
  durability_bound_any_script N hN [] ds

/-! ### write faults: nothing accepted is lost, nothing is delivered twice — for every fault script -/

open Ftdc.Props.C07

/-- a flush under ANY writer script keeps `complete writes ++ pending` -/
theorem flush_any_script (c : Streaming) (rows : List Row)
    (h : writtenRows c.out ++ c.inner.samples = rows) :
    writtenRows (c.flush).1.out ++ (c.flush).1.inner.samples = rows :=
  (Streaming.flush_content c).trans h

theorem add_any_script (c : Streaming) (acc : List BDoc) (d : BDoc)
    (h : writtenRows c.out ++ c.inner.samples = acc.map fun x => (extractDoc x).map (·.1)) :
    writtenRows (addLog (c, acc) d).1.out ++ (addLog (c, acc) d).1.inner.samples =
      (addLog (c, acc) d).2.map fun x => (extractDoc x).map (·.1) :=
  c.add_log d h

/-! ### whole histories: Add, Flush, Reset, SetMetadata, Resolve, Info in any order, under every fault script -/

/-- an operation of a history on a streaming collector (`resolve`, `info` and an unreadable `Add` change nothing) -/
inductive SOp where
  | add (d : BDoc) | addBad | flush | reset | setMeta (d : BDoc) | resolve | info

/-- the specification log (the documents accepted and not discarded by a `Reset`) carried along the history:
an accepted `Add` appends its document; `Reset` discards what is pending, i.e. keeps as many documents as the
complete writes hold; nothing else changes the log -/
def stepS (acc : Streaming × List BDoc) : SOp → Streaming × List BDoc
  | .add d => addLog acc d
  | .flush => ((acc.1.flush).1, acc.2)
  | .reset => (acc.1.reset, acc.2.take (writtenRows acc.1.out).length)
  | .setMeta d => (acc.1.setMetadata d, acc.2)
  | _ => acc

theorem take_of_append_eq_map {α β : Type} (f : α → β) (w p : List β) (acc : List α) (h : w ++ p = acc.map f) :
    w = (acc.take w.length).map f := by
  rw [List.map_take, ← h, List.take_left' rfl]

/-- **C07/C09 at full strength for the streaming collector**: for every history of operations and every script
of write results, the samples in the complete writes followed by the pending ones are exactly the documents
accepted since the last `Reset` (plus those flushed before it), once each and in order. -/
theorem streaming_faithful_all_histories (n : Nat) (script : List WriteResult) (ops : List SOp) :
    let c0 : Streaming := { Streaming.new n with out := { script := script } }
    let r := ops.foldl stepS (c0, [])
    writtenRows r.1.out ++ r.1.inner.samples = r.2.map fun x => (extractDoc x).map (·.1) := by
  refine List.foldlRecOn (motive := fun r => r.1.content = r.2.map vals) ops stepS
    (b := ({ Streaming.new n with out := { script := script } }, [])) rfl ?_
  rintro ⟨c, acc⟩ h op _
  cases op with
  | add d => exact add_any_script c acc d h
  | flush => exact flush_any_script c _ h
  | reset => exact (Streaming.reset_content c).trans (take_of_append_eq_map _ _ _ _ h)
  | _ => exact h

/-- **Under every placement of failing and short writes**: after any sequence of `Add`s over a writer that follows any
script of results (ok / error without consuming / short count), the complete writes followed by the pending samples are
exactly the samples whose `Add` returned nil, once each and in order.  So a failing write discards nothing, a later
successful flush delivers what is pending exactly once, and an `Add` that returned an error added nothing. -/
theorem faithful_under_any_write_faults (n : Nat) (script : List WriteResult) (ds : List BDoc) :
    let c0 : Streaming := { Streaming.new n with out := { script := script } }
    let r := ds.foldl addLog (c0, [])
    writtenRows r.1.out ++ r.1.inner.samples = r.2.map fun x => (extractDoc x).map (·.1) := by
  have := streaming_faithful_all_histories n script (ds.map .add)
  simp only [List.foldl_map] at this
  exact this

/-- ... and a flush that reports success leaves nothing pending: everything accepted is in the complete writes -/
theorem successful_flush_delivers_everything (c : Streaming) (acc : List BDoc)
    (h : writtenRows c.out ++ c.inner.samples = acc.map fun x => (extractDoc x).map (·.1))
    (hok : (c.flush).2 = true) :
    writtenRows (c.flush).1.out = acc.map fun x => (extractDoc x).map (·.1) := by
  have hf := flush_any_script c _ h
  rwa [Streaming.flush_ok_samples_nil hok, List.append_nil] at hf

def stepSD (acc : StreamingDynamic × List BDoc) : SOp → StreamingDynamic × List BDoc
  | .add d => addLogSD acc d
  | .flush => ((acc.1.flush).1, acc.2)
  | .reset => (acc.1.reset, acc.2.take (writtenRows acc.1.s.out).length)
  | .setMeta d => (acc.1.setMetadata d, acc.2)
  | _ => acc

theorem streaming_dynamic_faithful_all_histories (n : Nat) (script : List WriteResult) (ops : List SOp) :
    let c0 : StreamingDynamic := { s := { Streaming.new n with out := { script := script } } }
    let r := ops.foldl stepSD (c0, [])
    writtenRows r.1.s.out ++ r.1.s.inner.samples = r.2.map fun x => (extractDoc x).map (·.1) := by
  refine List.foldlRecOn (motive := fun r => r.1.s.content = r.2.map vals) ops stepSD
    (b := ({ s := { Streaming.new n with out := { script := script } } }, [])) rfl ?_
  rintro ⟨c, acc⟩ h op _
  cases op with
  | add d => exact c.add_log d h
  | flush => exact (StreamingDynamic.flush_content c).trans h
  | reset => exact (Streaming.reset_content c.s).trans (take_of_append_eq_map _ _ _ _ h)
  | _ => exact h

/-- the same for the schema-aware streaming collector (and so for the writer collector built on it):
schema-change flushes that fail lose nothing either -/
theorem dynamic_faithful_under_any_write_faults (n : Nat) (script : List WriteResult) (ds : List BDoc) :
    let c0 : StreamingDynamic := { s := { Streaming.new n with out := { script := script } } }
    let r := ds.foldl addLogSD (c0, [])
    writtenRows r.1.s.out ++ r.1.s.inner.samples = r.2.map fun x => (extractDoc x).map (·.1) := by
  have := streaming_dynamic_faithful_all_histories n script (ds.map .add)
  simp only [List.foldl_map] at this
  exact this

/-! non-vacuity: a history with a failing write (the second `Add` is refused because its flush fails), a retry,
a reset and a metadata change: two documents are accepted, one is durable, one pending -/
example : (let r := ([SOp.add (.cons [97] (.int64 1#64) .nil), .add (.cons [97] (.int64 2#64) .nil), .flush, .flush, .reset,
    .setMeta .nil, .add (.cons [97] (.int64 3#64) .nil)].foldl stepS
      (({ Streaming.new 1 with out := { script := [.fail] } } : Streaming), []));
    (r.2.length, (writtenRows r.1.out).length, r.1.inner.samples.length)) = (2, 1, 1) := by decide

end Ftdc.Props.C09
