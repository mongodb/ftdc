import FtdcVerif.Lemmas.RecorderTS
import FtdcVerif.Gen.Facts
import FtdcVerif.Lemmas.LockSound
/-!
# C16 — concurrent recorders neither deadlock nor lose updates

Two independent arguments.  (1) Static, regenerated from the source on every run: the
lock/unlock/return skeleton of every method that takes a mutex (interval recorders, synchronized
recorder, synchronized collectors, catcher) is extracted by `harness/cmd/extract` into
`Gen/Facts.lean`, and `all_lock_balanced` re-checks by kernel evaluation that on every path the
mutex is released before the function returns.  (2) Dynamic: `RecorderTS` is the transition
system of any number of user goroutines and flusher generations; for every schedule the mutex
is only ever owned by a goroutine inside its critical section, so a goroutine that has exited
never owns it and the owner can always move: no call blocks forever.
-/
namespace Ftdc.Props.C16
open Ftdc.RecorderTS Ftdc.LockSkeleton

theorem all_lock_balanced : Ftdc.Gen.lockSkeletons.all (fun p => balanced p.2) = true := by decide

/-- what `all_lock_balanced` means, by the soundness of the checker (`balanced_sound`): no method that takes a mutex has
a path — whichever branches are taken, however often its loops run — that unlocks a mutex it does not hold, returns
with the mutex held, or falls off its end with it -/
theorem every_path_releases_the_mutex (name : String) (k : Sk) (hm : (name, k) ∈ Ftdc.Gen.lockSkeletons)
    (o : Out) (hr : Run k (0, 0) o) :
    match o with
    | .stuck => False
    | .returned s => retOk s = true
    | .fell s => retOk s = true := by
  have hb : balanced k = true := by
    have := List.all_eq_true.1 all_lock_balanced (name, k) hm
    simpa using this
  exact balanced_sound k hb o hr

/-- the extraction is not empty.  `all_lock_balanced` holds of an empty list too, so a regenerated `Gen/Facts.lean` must
not fall below this floor (the pinned commit yields 55 skeletons; which methods they are is not stated). -/
theorem skeletons_present : 40 ≤ Ftdc.Gen.lockSkeletons.length := by decide

/-- finding F15: the pinned commit's flusher returned with the mutex held — its skeleton is
rejected by the same check -/
theorem unrepaired_flusher_rejected :
    balanced (.seq (sl [.loop (sl [.seq (sl [.branch (sl [.seq (sl [.ret]),
      .seq (sl [.lock, .branch (sl [.seq (sl [.ret]), .seq (sl [])]), .unlock])])])])])) = false := by decide

theorem exited_never_owns (sched : List Act) (j : Nat)
    (h : (run (init true) sched).fpc j = .exited) : (run (init true) sched).owner ≠ .flusher j := by
  intro ho
  have := (run_inv sched _ init_inv).owner_flusher j ho
  rw [h] at this; cases this

/-- Under the invariant whoever holds the mutex is inside its critical section, so its next step is enabled; if nobody
holds it, every waiting goroutine can take it. -/
theorem owner_can_always_move_inv (s : St) (inv : RecorderTS.Inv s) :
    (∀ i, s.owner = .user i → (step s (.user i)).isSome) ∧
    (∀ j, s.owner = .flusher j → (step s (.flusher j)).isSome) ∧
    (s.owner = .free → ∀ i op, s.upc i = .waiting op → (step s (.user i)).isSome) ∧
    (s.owner = .free → ∀ j, s.fpc j = .waitLock → (step s (.flusher j)).isSome) := by
  refine ⟨fun i ho => ?_, fun j ho => ?_, fun hfree i op hw => by simp [step, hw, hfree],
    fun hfree j hw => by simp [step, hw, hfree]⟩
  · obtain ⟨op, hop⟩ := inv.owner_user i ho
    cases op <;> simp only [step, hop] <;> first | rfl | (split <;> rfl)
  · simp only [step, inv.owner_flusher j ho, inv.fixed, if_true]
    split <;> rfl

/-- No call blocks forever: in every reachable state the next step of whoever holds the mutex is enabled.  (The two
clauses of `owner_can_always_move_inv` about a free mutex are not part of this statement.) -/
theorem owner_can_always_move (sched : List Act) :
    (∀ i, (run (init true) sched).owner = .user i → (step (run (init true) sched) (.user i)).isSome) ∧
    (∀ j, (run (init true) sched).owner = .flusher j → (step (run (init true) sched) (.flusher j)).isSome) :=
  have h := owner_can_always_move_inv _ (run_inv sched _ init_inv)
  ⟨h.1, h.2.1⟩

/-- at most one flusher per test cycle is uncancelled, and it is the one EndTest will stop -/
theorem flusher_at_most_one (sched : List Act) (j k : Nat)
    (hj : j < (run (init true) sched).nflush) (hk : k < (run (init true) sched).nflush)
    (cj : (run (init true) sched).fcancelled j = false) (ck : (run (init true) sched).fcancelled k = false) :
    j = k := by
  have inv := run_inv sched _ init_inv
  have h1 := inv.one_active j hj cj
  have h2 := inv.one_active k hk ck
  rw [h1] at h2; injection h2

/-- after EndTest (or Reset) no flusher is left uncancelled: the flusher stops after EndTest -/
theorem no_active_flusher_without_canceler (sched : List Act)
    (hc : (run (init true) sched).canceler = none) (k : Nat)
    (hk : k < (run (init true) sched).nflush) : (run (init true) sched).fcancelled k = true := by
  have inv := run_inv sched _ init_inv
  cases hck : (run (init true) sched).fcancelled k with
  | true => rfl
  | false => have := inv.one_active k hk hck; rw [hc] at this; cases this

/-- No increment is lost: what the point holds plus what was persisted is the sum of all
increments of completed calls (minus what Reset was asked to discard) -/
theorem counters_are_sums (sched : List Act) :
    (run (init true) sched).counter + (run (init true) sched).persisted = (run (init true) sched).issued :=
  (run_inv sched _ init_inv).sum

/-- finding F15 as a schedule: with the unrepaired flusher, EndTest while the flusher waits for
the mutex leaves the mutex owned by a goroutine that has exited — every later call blocks -/
theorem deadlock_before_fix :
    ∃ sched, (run (init false) sched).owner = .flusher 0 ∧ (run (init false) sched).fpc 0 = .exited :=
  ⟨[.call 0 .begin, .user 0, .user 0, .flusher 0, .call 0 .endTest, .user 0, .user 0, .flusher 0, .flusher 0],
   by decide⟩

/-! non-vacuity: a schedule in which a user increments while the flusher holds the mutex -/
example : (run (init true) [.call 0 .begin, .user 0, .user 0, .flusher 0, .flusher 0, .call 1 (.inc 5),
    .user 1, .flusher 0, .user 1, .user 1]).counter = 5 := by decide

end Ftdc.Props.C16
