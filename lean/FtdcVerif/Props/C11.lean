import FtdcVerif.Lemmas.Reader
import FtdcVerif.Model.Collector
import FtdcVerif.Lemmas.FileE2E
/-!
# C11 — metadata travels with the chunks it describes

Read side: for every stream of framed documents, the chunk decoded from a document carries the
most recent metadata document (type numerically 0) that precedes it.  Write side: a collector
emits its metadata as its own type-0 document ahead of the chunk, never inside the payload, and
a later `SetMetadata` replaces it.  That the document/matrix/series iterators hand every item on
together with its chunk's metadata (Go's `iteratorItem`, fix F11) is not modelled: the `meta` stream
checks `Metadata()` after every `Next` on the implementation.
-/
namespace Ftdc.Props.C11
open Ftdc

theorem latestMeta_cons (db : Bytes) (dbs : List Bytes) :
    latestMeta (db :: dbs) = match latestMeta dbs with
      | some d => some d
      | none => isMetaDoc db := by
  unfold latestMeta
  rw [List.filterMap_cons]
  cases isMetaDoc db with
  | none => cases (dbs.filterMap isMetaDoc).getLast? <;> rfl
  | some d => rw [List.getLast?_cons]; cases (dbs.filterMap isMetaDoc).getLast? <;> rfl

/-- one step: a chunk gets the metadata current before its document; the current metadata
changes exactly at metadata documents -/
theorem step_meta (inflate : Inflate) (md md' : Option BDoc) (acc acc' : List Chunk) (db : Bytes)
    (h : stepDoc inflate (.running md acc) db = .running md' acc') :
    (md' = match isMetaDoc db with | some d => some d | none => md) ∧
    (acc' = acc ∨ ∃ c, acc' = acc ++ [c] ∧ c.metadata = md) := by
  unfold isMetaDoc
  cases hp : parseDoc db with
  | none => simp [stepDoc, hp] at h
  | some doc =>
    cases hd : processDoc inflate doc md with
    | error e => simp [stepDoc, hp, hd] at h
    | ok r =>
      obtain ⟨m1, oc⟩ := r
      obtain ⟨hm, hc⟩ := processDoc_meta inflate doc md m1 oc hd
      -- the reader's rule for the current metadata is `isMetaDoc`'s
      have hmd : m1 = match (if isNum 0 (lookupLast keyType doc) then some doc else none) with
          | some d => some d | none => md := by rw [hm]; split <;> rfl
      cases oc with
      | none =>
        simp only [stepDoc, hp, hd, RState.running.injEq] at h
        exact ⟨h.1 ▸ hmd, .inl h.2.symm⟩
      | some c =>
        simp only [stepDoc, hp, hd, RState.running.injEq] at h
        exact ⟨h.1 ▸ hmd, .inr ⟨c, h.2.symm, (hc c rfl).1⟩⟩

/-- the metadata the reader holds after framed documents is the latest metadata document among
them, or what it held before if there is none -/
theorem current_meta_from (inflate : Inflate) : ∀ (dbs : List Bytes) (md0 md : Option BDoc)
    (acc0 acc : List Chunk), processDocs inflate (.running md0 acc0) dbs = .running md acc →
    md = match latestMeta dbs with | some d => some d | none => md0 := by
  intro dbs
  induction dbs with
  | nil => intro md0 md acc0 acc h; simp [processDocs] at h; simp [latestMeta, h.1]
  | cons db rest ih =>
    intro md0 md acc0 acc h
    simp only [processDocs, List.foldl_cons] at h
    cases hs : stepDoc inflate (.running md0 acc0) db with
    | failed a e =>
      rw [hs] at h
      have := processDocs_failed inflate a e rest
      simp only [processDocs] at this; rw [this] at h; cases h
    | running m1 a1 =>
      rw [hs] at h
      obtain ⟨hm, _⟩ := step_meta inflate md0 m1 acc0 a1 db hs
      have := ih m1 md a1 acc (by simpa [processDocs] using h)
      rw [this, latestMeta_cons, hm]
      cases latestMeta rest <;> rfl

/-- **every chunk reports the most recent metadata document that preceded it** (none ⇒ nil):
for every split `pre ++ [db]` of a stream of framed documents, the chunk decoded from `db`
carries `latestMeta pre`. -/
theorem chunk_metadata_is_latest (inflate : Inflate) (pre : List Bytes) (db : Bytes)
    (md md' : Option BDoc) (acc : List Chunk) (c : Chunk)
    (hpre : processDocs inflate (.running none []) pre = .running md acc)
    (hstep : stepDoc inflate (.running md acc) db = .running md' (acc ++ [c])) :
    c.metadata = latestMeta pre := by
  have hm : md = latestMeta pre := by
    rw [current_meta_from inflate pre none md [] acc hpre]; cases latestMeta pre <;> rfl
  obtain ⟨_, hc⟩ := step_meta inflate md md' acc (acc ++ [c]) db hstep
  rcases hc with h | ⟨c', h1, h2⟩
  · have := congrArg List.length h; simp at this
  · rw [List.singleton_inj.1 (List.append_cancel_left h1), h2, hm]

/-- in particular a stream without metadata documents yields nil metadata -/
theorem no_metadata_is_nil (dbs : List Bytes) (h : ∀ db ∈ dbs, isMetaDoc db = none) :
    latestMeta dbs = none := by
  rw [latestMeta, List.filterMap_eq_nil_iff.2 h]
  rfl

/-! ### write side (`betterCollector`) -/

/-- metadata is emitted as its own type-0 document ahead of the chunk it describes -/
theorem metadata_emitted_first (c : Better) (md ref : BDoc) (hm : c.metadata = some md)
    (hr : c.ref = some ref) :
    c.resolve = some [.metaDoc c.startedAt md, .chunk c.startedAt ref c.first c.rows] := by
  rw [Better.resolve_of_ref hr, hm]; rfl

/-- without metadata the output is the chunk alone -/
theorem no_metadata_no_document (c : Better) (ref : BDoc) (hm : c.metadata = none)
    (hr : c.ref = some ref) :
    c.resolve = some [.chunk c.startedAt ref c.first c.rows] := by
  rw [Better.resolve_of_ref hr, hm]; rfl

/-- metadata is never mixed into the samples: the chunk payload does not depend on it -/
theorem metadata_not_in_payload (c : Better) (md : BDoc) :
    (c.setMetadata md).ref = c.ref ∧ (c.setMetadata md).first = c.first ∧
    (c.setMetadata md).rows = c.rows := by
  simp [Better.setMetadata]

/-- a later `SetMetadata` replaces the earlier one -/
theorem metadata_replaced (c : Better) (m1 m2 : BDoc) :
    ((c.setMetadata m1).setMetadata m2) = c.setMetadata m2 := by
  simp [Better.setMetadata]

/-- adding samples and `Reset` keep the metadata (it describes every later chunk too) -/
theorem metadata_survives (c : Better) (d : BDoc) :
    (c.add d).1.metadata = c.metadata ∧ c.reset.metadata = c.metadata := by
  refine ⟨?_, rfl⟩
  fun_cases Better.add c d <;> rfl

/-! ### write side and read side together, at the byte level -/

/-- **in the file a collector writes, every chunk the reader delivers carries the metadata document that precedes it
most closely** (as the reader stores it: the whole type-0 document), together with its own reference document and
samples; no error is reported.  `outs` is any list of output documents - metadata documents and decodable chunks in
any order, so a replaced metadata document describes exactly the chunks between it and its replacement. -/
theorem file_metadata_travels (deflate : Bytes → Bytes) (inflate : Inflate) (hz : FileE2E.ZlibOK deflate inflate)
    (now : I64) (outs : List OutDoc) (hok : ∀ o ∈ outs, FileE2E.OutOK deflate now o) :
    (readAll inflate (FileE2E.fileBytes deflate now outs)).err = none ∧
    (readAll inflate (FileE2E.fileBytes deflate now outs)).chunks.map (fun c => (c.ref, c.rows, c.metadata)) =
      FileE2E.partsWithMeta deflate now none outs :=
  FileE2E.file_roundtrip_meta deflate inflate hz now outs hok

/-- the specification side, spelled out on a pattern: chunk, metadata A, chunk, metadata B, chunk - the three chunks
carry none, A, B -/
example (deflate : Bytes → Bytes) (now : I64) (c1 c2 c3 : BDoc × Row × List Row) (a b : BDoc) :
    (FileE2E.partsWithMeta deflate now none
      [.chunk .none c1.1 c1.2.1 c1.2.2, .metaDoc .none a, .chunk .none c2.1 c2.2.1 c2.2.2, .metaDoc .none b,
       .chunk .none c3.1 c3.2.1 c3.2.2]).map (·.2.2) =
    [none, some (FileE2E.wireDoc deflate now (.metaDoc .none a)), some (FileE2E.wireDoc deflate now (.metaDoc .none b))] := rfl

end Ftdc.Props.C11
