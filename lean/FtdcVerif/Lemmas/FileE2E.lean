import FtdcVerif.Props.C07
import FtdcVerif.Lemmas.Reader
/-!
# The file level: what the collectors write is what the reader reads

The outer documents `{_id, type: 0, doc}` / `{_id, type: 1, data: binary}` as bytes, and zlib as a pair of
functions of which only `inflate (deflate p) = p, cleanly` is assumed.  The collectors enter through C07's
`ChunkOK` (what they write is decodable) and its two theorems about sequences of `Add`s
(`streaming_writer_decodes_to_accepted`, `batch_output_decodes`).
-/
namespace Ftdc.FileE2E
open Ftdc Ftdc.Props.C07

def keyDoc : Bytes := [100, 111, 99]   -- "doc"

/-- a BSON binary value of subtype 0 -/
def binaryRaw (z : Bytes) : Bytes := le32 z.length ++ [0] ++ z

/-- `_id`: the chunk's first time stamp; `now` stands for the `time.Now()` reported when the reference document holds
no usable datetime.  One value serves every document of a file, and nothing proved depends on it. -/
def idMs (now : I64) : Ts → I64
  | .at ms => ms
  | _ => now

/-- `Resolve`'s two documents as BSON trees (collector_better.go) -/
def wireDoc (deflate : Bytes → Bytes) (now : I64) : OutDoc → BDoc
  | .metaDoc id md =>
    .cons keyId (.datetime (idMs now id)) (.cons keyType (.int32 0#32) (.cons keyDoc (.doc md) .nil))
  | .chunk id ref first rows =>
    let p := payloadOf ref first rows
    .cons keyId (.datetime (idMs now id)) (.cons keyType (.int32 1#32)
      (.cons keyData (.other 0x05 (binaryRaw (le32 p.length ++ deflate p))) .nil))

def fileBytes (deflate : Bytes → Bytes) (now : I64) (outs : List OutDoc) : Bytes :=
  (outs.map fun o => serDoc (wireDoc deflate now o)).flatten

theorem binary_otherOk (z : Bytes) (h : z.length < 2 ^ 31) : OtherOk 0x05 (binaryRaw z) := by
  refine ⟨by decide, fun fuel rest => ?_⟩
  -- the five header bytes (length, subtype 0), then the whole value
  have e5 : takeN 5 (binaryRaw z ++ rest) = some (le32 z.length ++ [0], z ++ rest) := by
    rw [show binaryRaw z ++ rest = (le32 z.length ++ [0]) ++ (z ++ rest) by simp [binaryRaw]]
    exact takeN_append _ _ 5 (by simp [le32_length])
  have eall : takeN (5 + z.length) (binaryRaw z ++ rest) = some (binaryRaw z, rest) :=
    takeN_append _ _ _ (by simp [binaryRaw, le32_length]; omega)
  have et : (le32 z.length ++ [0]).take 4 = le32 z.length := List.take_left' (le32_length _)
  have es : (le32 z.length ++ [0])[4]? = some 0 := by simp [le32_length]
  have hl : ¬ z.length ≥ 2 ^ 31 := Nat.not_le_of_lt h
  simp [parseVal, e5, et, es, eall, rdLe_le32 _ (Nat.lt_trans h (by decide)), hl]

def ZlibOK (deflate : Bytes → Bytes) (inflate : Inflate) : Prop := ∀ p, inflate (deflate p) = some (p, true)

theorem lookup3 {k1 k2 k3 : Bytes} (v1 v2 v3 : BVal) (h12 : k1 ≠ k2) (h13 : k1 ≠ k3) (h23 : k2 ≠ k3) :
    lookupLast k1 (.cons k1 v1 (.cons k2 v2 (.cons k3 v3 .nil))) = some v1 ∧
    lookupLast k2 (.cons k1 v1 (.cons k2 v2 (.cons k3 v3 .nil))) = some v2 ∧
    lookupLast k3 (.cons k1 v1 (.cons k2 v2 (.cons k3 v3 .nil))) = some v3 := by
  simp [lookupLast, BDoc.toList, List.filter, h12, h13, h23, Ne.symm h12, Ne.symm h13, Ne.symm h23]

/-- on the wire form of a metadata document (`Ftdc.processDoc_meta`, Lemmas/Reader, is about any document that
`processDoc` accepts) -/
theorem processDoc_meta (deflate : Bytes → Bytes) (inflate : Inflate) (now : I64) (id : Ts) (md : BDoc) (cur : Option BDoc) :
    processDoc inflate (wireDoc deflate now (.metaDoc id md)) cur =
      .ok (some (wireDoc deflate now (.metaDoc id md)), none) := by
  have ht := (lookup3 (k1 := keyId) (k2 := keyType) (k3 := keyDoc) (.datetime (idMs now id)) (.int32 0#32) (.doc md)
    (by decide) (by decide) (by decide)).2.1
  simp [processDoc, wireDoc, ht, isNum]

theorem binaryPayload_raw (z : Bytes) : binaryPayload (binaryRaw z) = z := by
  have hl : (le32 z.length).length = 4 := le32_length _
  unfold binaryPayload binaryRaw
  generalize le32 z.length = L at hl
  match L, hl with
  | [a, b, c, d], _ => simp

theorem processDoc_chunk (deflate : Bytes → Bytes) (inflate : Inflate) (hz : ZlibOK deflate inflate) (now : I64)
    (id : Ts) (ref : BDoc) (first : Row) (rows : List Row) (cur : Option BDoc) (c : Chunk)
    (hd : decodePayload (payloadOf ref first rows) = .ok c) :
    processDoc inflate (wireDoc deflate now (.chunk id ref first rows)) cur =
      .ok (cur, some { c with id := some (idMs now id), metadata := cur }) := by
  obtain ⟨hi, ht, hdta⟩ := lookup3 (k1 := keyId) (k2 := keyType) (k3 := keyData) (.datetime (idMs now id)) (.int32 1#32)
    (.other 0x05 (binaryRaw (le32 (payloadOf ref first rows).length ++ deflate (payloadOf ref first rows))))
    (by decide) (by decide) (by decide)
  have hdrop : (le32 (payloadOf ref first rows).length ++ deflate (payloadOf ref first rows)).drop 4 =
      deflate (payloadOf ref first rows) := List.drop_left' (le32_length _)
  have hlen : ¬ (le32 (payloadOf ref first rows).length ++ deflate (payloadOf ref first rows)).length < 4 := by
    simp [le32_length]
  simp only [processDoc, wireDoc, ht, hi, hdta, isNum, binaryPayload_raw, hlen, hdrop, hz _, hd]
  simp

/-- an output document the byte-level theorems apply to -/
def OutOK (deflate : Bytes → Bytes) (now : I64) (o : OutDoc) : Prop :=
  ChunkOK o ∧ (serDoc (wireDoc deflate now o)).length < 2 ^ 31 ∧
  (match o with | .metaDoc _ md => WFDoc md | .chunk _ _ _ _ => True)

theorem keyOk_of (k : Bytes) (h : k.all (· ≠ 0) = true) : KeyOk k := by
  intro b hb; have := List.all_eq_true.mp h b hb; simpa using this

theorem serVal_le_serDoc3 (k1 k2 k3 : Bytes) (v1 v2 v3 : BVal) :
    (serVal v3).length ≤ (serDoc (.cons k1 v1 (.cons k2 v2 (.cons k3 v3 .nil)))).length := by
  simp only [serDoc_length, serElems, List.length_append]; omega

theorem wireDoc_wf (deflate : Bytes → Bytes) (now : I64) (o : OutDoc) (h : OutOK deflate now o) :
    WFDoc (wireDoc deflate now o) := by
  obtain ⟨_, hl, hm⟩ := h
  cases o with
  | metaDoc id md =>
    -- what the third value still needs is its size bound, and it is no longer than the document
    have h3 : (serVal (.doc md)).length < 2 ^ 31 := Nat.lt_of_le_of_lt (serVal_le_serDoc3 ..) hl
    rw [serVal] at h3
    exact ⟨keyOk_of _ (by decide), trivial, keyOk_of _ (by decide), trivial, keyOk_of _ (by decide),
      ⟨hm, h3⟩, trivial⟩
  | chunk id ref first rows =>
    have h3 : (serVal (.other 0x05 (binaryRaw _))).length < 2 ^ 31 := Nat.lt_of_le_of_lt (serVal_le_serDoc3 ..) hl
    rw [serVal] at h3
    exact ⟨keyOk_of _ (by decide), trivial, keyOk_of _ (by decide), trivial, keyOk_of _ (by decide),
      binary_otherOk _ (Nat.lt_of_le_of_lt (List.sublist_append_right _ _).length_le h3), trivial⟩

theorem decoded_ref_rows (id : Ts) (ref : BDoc) (first : Row) (rows : List Row) (h : ChunkOK (.chunk id ref first rows))
    (c : Chunk) (hd : decodePayload (payloadOf ref first rows) = .ok c) : c.ref = ref ∧ c.rows = first :: rows := by
  obtain ⟨c', h1, h2⟩ := chunkOK_decodes_ref id ref first rows h
  obtain rfl : c = c' := by simpa using hd.symm.trans h1
  exact h2

/-- what the reader makes of one chunk document: its reference document and its samples -/
def chunkPart : OutDoc → Option (BDoc × List Row)
  | .metaDoc _ _ => none
  | .chunk _ ref first rows => some (ref, first :: rows)

/-- the chunks of a list of output documents, each with the metadata document (as the reader stores it: the whole
type-0 document) that precedes it most closely -/
def partsWithMeta (deflate : Bytes → Bytes) (now : I64) : Option BDoc → List OutDoc → List (BDoc × List Row × Option BDoc)
  | _, [] => []
  | _, .metaDoc id m :: r => partsWithMeta deflate now (some (wireDoc deflate now (.metaDoc id m))) r
  | md, .chunk _ ref first rows :: r => (ref, first :: rows, md) :: partsWithMeta deflate now md r

theorem partsWithMeta_parts (deflate : Bytes → Bytes) (now : I64) (outs : List OutDoc) (md : Option BDoc) :
    (partsWithMeta deflate now md outs).map (fun t => (t.1, t.2.1)) = outs.filterMap chunkPart := by
  fun_induction partsWithMeta deflate now md outs <;> simp_all [chunkPart, List.filterMap_cons]

theorem processDocs_file_meta (deflate : Bytes → Bytes) (inflate : Inflate) (hz : ZlibOK deflate inflate) (now : I64) :
    ∀ (outs : List OutDoc), (∀ o ∈ outs, OutOK deflate now o) → ∀ (md : Option BDoc) (acc : List Chunk),
    ∃ md' cs, processDocs inflate (.running md acc) (outs.map fun o => serDoc (wireDoc deflate now o)) = .running md' (acc ++ cs) ∧
      cs.map (fun c => (c.ref, c.rows, c.metadata)) = partsWithMeta deflate now md outs := by
  intro outs
  induction outs with
  | nil => intro _ md acc; exact ⟨md, [], by simp [processDocs], rfl⟩
  | cons o rest ih =>
    intro hok md acc
    obtain ⟨ho, hrest⟩ := List.forall_mem_cons.1 hok
    have hparse := parseDoc_serDoc (wireDoc deflate now o) (wireDoc_wf deflate now o ho) ho.2.1
    simp only [List.map_cons, processDocs, List.foldl_cons, stepDoc, hparse]
    cases o with
    | metaDoc id mdoc =>
      simp only [processDoc_meta]
      obtain ⟨md', cs, h1, h2⟩ := ih hrest (some (wireDoc deflate now (.metaDoc id mdoc))) acc
      exact ⟨md', cs, h1, by simpa [partsWithMeta] using h2⟩
    | chunk id ref first rows =>
      obtain ⟨c, hd, href, hrows⟩ := chunkOK_decodes_ref id ref first rows ho.1
      simp only [processDoc_chunk deflate inflate hz now id ref first rows md c hd]
      obtain ⟨md', cs, h1, h2⟩ := ih hrest md (acc ++ [{ c with id := some (idMs now id), metadata := md }])
      refine ⟨md', { c with id := some (idMs now id), metadata := md } :: cs, by simpa [processDocs] using h1, ?_⟩
      -- `rows` does not look at `id` and `metadata`
      rw [List.map_cons, partsWithMeta, h2, ← href, ← hrows]
      rfl

/-- `processDocs_file_meta` without the metadata -/
theorem processDocs_file (deflate : Bytes → Bytes) (inflate : Inflate) (hz : ZlibOK deflate inflate) (now : I64) :
    ∀ (outs : List OutDoc), (∀ o ∈ outs, OutOK deflate now o) → ∀ (md : Option BDoc) (acc : List Chunk),
    ∃ md' cs, processDocs inflate (.running md acc) (outs.map fun o => serDoc (wireDoc deflate now o)) = .running md' (acc ++ cs) ∧
      cs.map (fun c => (c.ref, c.rows)) = outs.filterMap chunkPart := by
  intro outs hok md acc
  obtain ⟨md', cs, h1, h2⟩ := processDocs_file_meta deflate inflate hz now outs hok md acc
  exact ⟨md', cs, h1, by rw [← partsWithMeta_parts deflate now outs md, ← h2, List.map_map]; rfl⟩

/-- C11's `file_metadata_travels` -/
theorem file_roundtrip_meta (deflate : Bytes → Bytes) (inflate : Inflate) (hz : ZlibOK deflate inflate) (now : I64)
    (outs : List OutDoc) (hok : ∀ o ∈ outs, OutOK deflate now o) :
    (readAll inflate (fileBytes deflate now outs)).err = none ∧
    (readAll inflate (fileBytes deflate now outs)).chunks.map (fun c => (c.ref, c.rows, c.metadata)) =
      partsWithMeta deflate now none outs := by
  have hfr : ∀ db ∈ (outs.map fun o => serDoc (wireDoc deflate now o)), WellFramed db := by
    intro db hdb
    obtain ⟨o, ho, rfl⟩ := List.mem_map.mp hdb
    exact serDoc_wellFramed _ (hok o ho).2.1
  unfold fileBytes
  rw [readAll_framed inflate _ hfr]
  obtain ⟨md', cs, h1, h2⟩ := processDocs_file_meta deflate inflate hz now outs hok none []
  rw [h1]
  exact ⟨rfl, by simpa [RState.result] using h2⟩

/-- any list of output documents (metadata documents and decodable chunks, in any order), serialised as the collectors
serialise them, is read by `ReadChunks` without error into exactly its chunks: same reference documents, same samples,
same order -/
theorem file_roundtrip (deflate : Bytes → Bytes) (inflate : Inflate) (hz : ZlibOK deflate inflate) (now : I64)
    (outs : List OutDoc) (hok : ∀ o ∈ outs, OutOK deflate now o) :
    (readAll inflate (fileBytes deflate now outs)).err = none ∧
    (readAll inflate (fileBytes deflate now outs)).chunks.map (fun c => (c.ref, c.rows)) = outs.filterMap chunkPart := by
  obtain ⟨h1, h2⟩ := file_roundtrip_meta deflate inflate hz now outs hok
  exact ⟨h1, by rw [← partsWithMeta_parts deflate now outs none, ← h2, List.map_map]; rfl⟩

/-- everything a streaming collector has handed to its writer is a decodable chunk -/
theorem streaming_logged_chunkOK (n : Nat) (hn : n < 2 ^ 32) (ds : List BDoc) (hds : ∀ d ∈ ds, DocOK d) :
    ∀ o ∈ loggedDocs (ds.foldl (fun (c : Streaming) d => (c.add d).1) (Streaming.new n)).out, ChunkOK o :=
  (sok_run n hn ds hds).logged

/-- the hypotheses that concern bytes, not samples: every written document fits BSON's 31-bit size, and a metadata
document (user input to `SetMetadata`) is well-formed -/
def SizesOK (deflate : Bytes → Bytes) (now : I64) (outs : List OutDoc) : Prop :=
  ∀ o ∈ outs, (serDoc (wireDoc deflate now o)).length < 2 ^ 31 ∧
    (match o with | .metaDoc _ md => WFDoc md | .chunk _ _ _ _ => True)

theorem outOK_of_chunkOK_sizesOK {deflate : Bytes → Bytes} {now : I64} {outs : List OutDoc}
    (hck : ∀ o ∈ outs, ChunkOK o) (hsz : SizesOK deflate now outs) : ∀ o ∈ outs, OutOK deflate now o :=
  fun o ho => ⟨hck o ho, hsz o ho⟩

theorem samples_of_parts (outs : List OutDoc) :
    ((outs.filterMap chunkPart).map (·.2)).flatten = (outs.map OutDoc.samples).flatten := by
  induction outs with
  | nil => rfl
  | cons o rest ih =>
    cases o with
    | metaDoc id md => rw [List.filterMap_cons]; simpa [chunkPart, OutDoc.samples] using ih
    | chunk id ref first rows => simp [chunkPart, OutDoc.samples, ih]

theorem rows_of_file (deflate : Bytes → Bytes) (inflate : Inflate) (hz : ZlibOK deflate inflate) (now : I64)
    (outs : List OutDoc) (hck : ∀ o ∈ outs, ChunkOK o) (hsz : SizesOK deflate now outs) :
    (readAll inflate (fileBytes deflate now outs)).err = none ∧
    ((readAll inflate (fileBytes deflate now outs)).chunks.map Chunk.rows).flatten = (outs.map OutDoc.samples).flatten := by
  obtain ⟨h1, h2⟩ := file_roundtrip deflate inflate hz now outs (outOK_of_chunkOK_sizesOK hck hsz)
  refine ⟨h1, ?_⟩
  rw [← samples_of_parts, ← h2]
  simp [List.map_map, Function.comp_def]

/-- C01's theorem of the same name -/
theorem streaming_file_roundtrip (n : Nat) (hn : n < 2 ^ 32) (ds : List BDoc) (hds : ∀ d ∈ ds, DocOK d)
    (deflate : Bytes → Bytes) (inflate : Inflate) (hz : ZlibOK deflate inflate) (now : I64)
    (hsz : SizesOK deflate now (loggedDocs (ds.foldl addLog (Streaming.new n, [])).1.out)) :
    let r := ds.foldl addLog (Streaming.new n, [])
    let file := fileBytes deflate now (loggedDocs r.1.out)
    (readAll inflate file).err = none ∧
    ((readAll inflate file).chunks.map Chunk.rows).flatten ++ r.1.inner.samples =
      r.2.map fun x => (extractDoc x).map (·.1) := by
  intro r file
  have hck : ∀ o ∈ loggedDocs r.1.out, ChunkOK o := by
    rw [show r.1 = _ from addLog_fst ds _ _]; exact streaming_logged_chunkOK n hn ds hds
  obtain ⟨e1, e2⟩ := rows_of_file deflate inflate hz now (loggedDocs r.1.out) hck hsz
  refine ⟨e1, ?_⟩
  rw [e2]
  exact (streaming_writer_decodes_to_accepted n hn ds hds).2

/-- C01's theorem of the same name -/
theorem batch_file_roundtrip (n : Nat) (hn : n < 2 ^ 32) (ds : List BDoc) (hds : ∀ d ∈ ds, DocOK d)
    (deflate : Bytes → Bytes) (inflate : Inflate) (hz : ZlibOK deflate inflate) (now : I64)
    (out : List OutDoc) (hres : (ds.foldl (fun b d => (b.add d).1) (Batch.new n)).resolve = some out)
    (hsz : SizesOK deflate now out) :
    (readAll inflate (fileBytes deflate now out)).err = none ∧
    ((readAll inflate (fileBytes deflate now out)).chunks.map Chunk.rows).flatten =
      (ds.foldl (fun b d => (b.add d).1) (Batch.new n)).samples := by
  obtain ⟨e1, e2⟩ := rows_of_file deflate inflate hz now out (batch_output_decodes n hn ds hds out hres) hsz
  refine ⟨e1, ?_⟩
  rw [e2, Batch.resolve_samples _ out hres]

end Ftdc.FileE2E
