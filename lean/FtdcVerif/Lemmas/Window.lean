/-!
# The slots of a window hold its last `n` generations

`slots[(idx + 1 + j) % n]` is the `j`-th oldest of the last `n` generations (those that do not
exist yet are empty); hence the concatenation of the slots is a permutation of the concatenation
of the last `n` generations.
-/
namespace Ftdc.Window

theorem add_mod_inj {a x y n : Nat} (hx : x < n) (hy : y < n) (h : (a + x) % n = (a + y) % n) : x = y := by
  -- `n` divides the difference, which is below `n`
  have key : ∀ {x y}, y < n → (a + x) % n = (a + y) % n → y ≤ x := fun hy h => by
    have := Nat.sub_mod_eq_zero_of_mod_eq h.symm
    rw [Nat.add_sub_add_left, Nat.mod_eq_of_lt (Nat.lt_of_le_of_lt (Nat.sub_le _ _) hy)] at this
    exact Nat.le_of_sub_eq_zero this
  exact Nat.le_antisymm (key hx h.symm) (key hy h)

/-- chronological window: the last `n` generations, oldest first.  `rel_rotate` and `rel_record` speak of the bodies of
`rotate` and `record` on plain lists, so that they apply to the slots of any window state (`Props/C13`'s `AWin`). -/
structure CWin where
  win : List (List Int)

def CWin.rotate (c : CWin) : CWin := { win := c.win.tail ++ [[]] }
def CWin.record (c : CWin) (v : Int) : CWin := { win := c.win.modify (c.win.length - 1) (· ++ [v]) }

def Rel (n : Nat) (slots : List (List Int)) (idx : Nat) (win : List (List Int)) : Prop :=
  slots.length = n ∧ win.length = n ∧ ∀ j, j < n → slots[(idx + 1 + j) % n]? = win[j]?

theorem rel_init (n : Nat) : Rel n (List.replicate n []) 0 (List.replicate n []) := by
  refine ⟨by simp, by simp, ?_⟩
  intro j hj
  have : (0 + 1 + j) % n < n := Nat.mod_lt _ (by omega)
  simp [this, hj]

theorem rel_rotate {n : Nat} {slots : List (List Int)} {idx : Nat} {win : List (List Int)}
    (h : Rel n slots idx win) (hn : 0 < n) :
    Rel n (slots.modify ((idx + 1) % n) (fun _ => [])) (idx + 1) (win.tail ++ [[]]) := by
  obtain ⟨h1, h2, h3⟩ := h
  obtain ⟨m, rfl⟩ := Nat.exists_eq_add_one_of_ne_zero (Nat.ne_of_gt hn)
  have htl : win.tail.length = m := by rw [List.length_tail, h2]; rfl
  refine ⟨by rw [List.length_modify, h1], by rw [List.length_append, htl]; rfl, ?_⟩
  intro j hj
  rw [List.getElem?_modify, Nat.add_assoc (idx + 1), Nat.add_comm 1 j]
  rcases Nat.lt_or_eq_of_le (Nat.le_of_lt_succ hj) with hlt | rfl
  · -- every slot but the one that becomes current keeps its generation, which is now one place older
    have hne : ¬ (idx + 1) % (m + 1) = (idx + 1 + (j + 1)) % (m + 1) := fun e =>
      Nat.succ_ne_zero j (add_mod_inj (x := 0) hn (Nat.succ_lt_succ hlt) e).symm
    rw [h3 (j + 1) (Nat.succ_lt_succ hlt), List.getElem?_append_left (htl ▸ hlt), List.getElem?_tail]
    simp only [hne, if_false]
    exact id_map _
  · -- the slot that becomes current is cleared; it is the newest generation
    rw [Nat.add_mod_right, List.getElem?_eq_getElem (by rw [h1]; exact Nat.mod_lt _ hn),
      List.getElem?_append_right (Nat.le_of_eq htl), htl, Nat.sub_self]
    simp

theorem rel_record {n : Nat} {slots : List (List Int)} {idx : Nat} {win : List (List Int)} (v : Int)
    (h : Rel n slots idx win) (hn : 0 < n) :
    Rel n (slots.modify (idx % n) (· ++ [v])) idx (win.modify (win.length - 1) (· ++ [v])) := by
  obtain ⟨h1, h2, h3⟩ := h
  obtain ⟨m, rfl⟩ := Nat.exists_eq_add_one_of_ne_zero (Nat.ne_of_gt hn)
  refine ⟨by rw [List.length_modify, h1], by rw [List.length_modify, h2], ?_⟩
  intro j hj
  -- the current slot is that of the newest generation, `j = m`, and of no other
  have ecur : idx % (m + 1) = (idx + 1 + m) % (m + 1) := by
    rw [Nat.add_right_comm, Nat.add_assoc, Nat.add_mod_right]
  have hiff : idx % (m + 1) = (idx + 1 + j) % (m + 1) ↔ m = j :=
    ⟨fun e => add_mod_inj (Nat.lt_succ_self m) hj (ecur ▸ e), fun e => e ▸ ecur⟩
  rw [List.getElem?_modify, List.getElem?_modify, h2, ← h3 j hj, Nat.add_sub_cancel]
  simp only [hiff]

theorem win_eq_rotation {n : Nat} {slots : List (List Int)} {idx : Nat} {win : List (List Int)}
    (h : Rel n slots idx win) (hn : 0 < n) :
    win = slots.drop ((idx + 1) % n) ++ slots.take ((idx + 1) % n) := by
  obtain ⟨h1, h2, h3⟩ := h
  have hr : (idx + 1) % n < n := Nat.mod_lt _ hn
  apply List.ext_getElem?
  intro j
  by_cases hj : j < n
  · rw [← h3 j hj, Nat.add_mod_eq_ite, Nat.mod_eq_of_lt hj]
    -- `n = r + m`, where `r` slots are taken and `m` are left
    generalize (idx + 1) % n = r at hr ⊢
    obtain ⟨m, rfl⟩ := Nat.exists_eq_add_of_le (Nat.le_of_lt hr)
    have hd : (slots.drop r).length = m := by rw [List.length_drop, h1, Nat.add_sub_cancel_left]
    split
    · rename_i hge
      have hmj : m ≤ j := Nat.le_of_add_le_add_left hge
      have hjr : j - m < r := Nat.sub_lt_left_of_lt_add hmj (Nat.add_comm r m ▸ hj)
      rw [List.getElem?_append_right (hd ▸ hmj), hd, List.getElem?_take, Nat.add_sub_add_left, if_pos hjr]
    · rename_i hlt
      have hjm : j < m := Nat.lt_of_add_lt_add_left (Nat.not_le.1 hlt)
      rw [List.getElem?_append_left (hd.symm ▸ hjm), List.getElem?_drop]
  · have hjn := Nat.le_of_not_lt hj
    rw [List.getElem?_eq_none (h2.symm ▸ hjn), List.getElem?_eq_none]
    rwa [List.length_append, Nat.add_comm, ← List.length_append, List.take_append_drop, h1]

theorem slots_perm {n : Nat} {slots : List (List Int)} {idx : Nat} {win : List (List Int)}
    (h : Rel n slots idx win) (hn : 0 < n) : slots.flatten.Perm win.flatten := by
  have := (List.perm_append_comm (l₁ := slots.take ((idx + 1) % n)) (l₂ := slots.drop ((idx + 1) % n))).flatten
  rwa [List.take_append_drop, ← win_eq_rotation h hn] at this

end Ftdc.Window
