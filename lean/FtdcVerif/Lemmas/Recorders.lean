import FtdcVerif.Model.Recorders
/-! C15 speaks of EndTest for all eight kinds at once, and the model's `step` has an arm per group of kinds.
`step_endTest` gives the arms one form: a last hand-over to the collector (at most one `persist`) followed by Reset.  So
what survives EndTest is what `doReset` keeps: `freshPoint`, the model's own "keep the gauges". -/
namespace Ftdc.Recorders

theorem persist_nerrs (s : RState) :
    (persist s).1.nerrs = if s.fails.contains s.adds then s.nerrs + 1 else s.nerrs := rfl

theorem persist_nerrs_bounds (s : RState) : s.nerrs ≤ (persist s).1.nerrs ∧ (persist s).1.nerrs ≤ s.nerrs + 1 := by
  rw [persist_nerrs]; split <;> omega

theorem freshPoint_setTimestamp (p : Point) (b : Bool) : freshPoint (setTimestamp p b) = freshPoint p := by
  unfold setTimestamp; split <;> rfl

/-- `s1` is `s` after bookkeeping that leaves the gauges alone and at most one `persist`; the reported number is
`s1.nerrs`. -/
theorem step_endTest (s : RState) : ∃ s1 out,
    step s .endTest = (doReset s1, { persisted := out, endTestErrs := some s1.nerrs }) ∧
    freshPoint s1.p = freshPoint s.p ∧ s.nerrs ≤ s1.nerrs ∧ s1.nerrs ≤ s.nerrs + 1 := by
  unfold step
  simp only []
  split
  -- the two single recorders stamp the point and hand it over unconditionally (`persist` leaves the point alone)
  · exact ⟨_, _, rfl, freshPoint_setTimestamp s.p s.started,
      persist_nerrs_bounds { s with p := setTimestamp s.p s.started }⟩
  · exact ⟨_, _, rfl, freshPoint_setTimestamp s.p s.started,
      persist_nerrs_bounds { s with p := setTimestamp s.p s.started }⟩
  -- the others hand it over if a time stamp is set; the interval histogram recorder first closes a running iteration
  · split
    · split
      · exact ⟨_, _, rfl, rfl, persist_nerrs_bounds { recTotalElapsed s with started := false }⟩
      · exact ⟨_, [], rfl, rfl, Nat.le_refl _, Nat.le_succ _⟩
    · split
      · exact ⟨_, _, rfl, rfl, persist_nerrs_bounds s⟩
      · exact ⟨s, [], rfl, rfl, Nat.le_refl _, Nat.le_succ _⟩

end Ftdc.Recorders
