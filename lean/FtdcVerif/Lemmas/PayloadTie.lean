import FtdcVerif.Gen.Code
import FtdcVerif.Model.Codec
import FtdcVerif.Lemmas.Codec
/-! The zero-run encoder of `getPayload` (collector_better.go), as regenerated from the Go text
(`Gen.Better.getPayload_region`), emits exactly the model's `rleEnc` of the metric-major delta cells. -/
namespace Ftdc.PayloadTie
open Ftdc Ftdc.Gen Ftdc.Gen.Better

/-- the flush `0, zeroCount-1` of a pending run, as after the loops -/
def finish (st : List Int × Int) : List Int :=
  if st.2 > 0 then st.1 ++ [0] ++ [st.2 - 1] else st.1

/-- one round of the inner loop on (values handed to `encodeValue` so far, `zeroCount`): `zeroCount++; continue` on a
zero delta; otherwise the flush of a pending run, `zeroCount = 0`, and the delta itself -/
def stepV (st : List Int × Int) (d : Int) : List Int × Int :=
  if d = 0 then (st.1, st.2 + 1) else (finish st ++ [d], if st.2 > 0 then 0 else st.2)

/-- cell (metric i, sample j) of the delta table, `c.deltas[getOffset(c.maxDeltas, j, i)]`; `md` is `c.maxDeltas` -/
def cell (ds : List Int) (md : Int) (i j : Nat) : Int := Go.index ds ((i : Int) * md + (j : Int))

/-- the cells the inner loop visits for metric `i` from sample `j` on, `n` of them -/
def row (ds : List Int) (md : Int) (i j n : Nat) : List Int := (List.range' j n).map (cell ds md i)

/-- the cells the outer loop visits from metric `i` on: `n` metrics of `ns` samples each -/
def rows (ds : List Int) (md : Int) (ns : Nat) (i n : Nat) : List Int :=
  ((List.range' i n).map fun i => row ds md i 0 ns).flatten

/-- `Go.index` reads 0 outside the slice -/
theorem mem_rows {ds : List Int} {md : Int} {ns i n : Nat} {x : Int} (h : x ∈ rows ds md ns i n) : x = 0 ∨ x ∈ ds := by
  simp only [rows, row, List.mem_flatten, List.mem_map] at h
  obtain ⟨_, ⟨i', _, rfl⟩, h⟩ := h
  obtain ⟨j, _, rfl⟩ := List.mem_map.1 h
  unfold cell Go.index
  split
  · exact .inl rfl
  · rw [List.getD_eq_getElem?_getD]
    cases hk : ds[((i' : Int) * md + (j : Int)).toNat]? with
    | none => exact .inl rfl
    | some v => exact .inr (List.mem_of_getElem? hk)

theorem inner_tie (ds : List Int) (md : Int) (ns i n j : Nat) (out : List Int) (zc : Int) (h : j + n = ns) :
    getPayload_loop2 ds md (ns : Int) (i : Int) n (j : Int) out zc
      = ((ns : Int), (row ds md i j n).foldl stepV (out, zc)) := by
  induction n generalizing j out zc with
  | zero =>
    subst h
    rfl
  | succ n ih =>
    have hcell : Go.index ds (getOffset md (j : Int) (i : Int)) = cell ds md i j := rfl
    have hrow : row ds md i j (n + 1) = cell ds md i j :: row ds md i (j + 1) n := rfl
    rw [hrow, List.foldl_cons, ← ih (j + 1) _ _ (by omega), Int.natCast_succ, getPayload_loop2,
      if_pos (show (j : Int) < ns by omega), hcell]
    by_cases h0 : cell ds md i j = 0
    · simp only [stepV, h0, if_true]
    · by_cases hz : zc > 0 <;> simp only [stepV, finish, h0, hz, if_true, if_false]

theorem outer_tie (ds : List Int) (md : Int) (ns nm n i : Nat) (out : List Int) (zc : Int) (h : i + n = nm) :
    getPayload_loop1 ds md (ns : Int) (nm : Int) n (i : Int) out zc
      = ((nm : Int), (rows ds md ns i n).foldl stepV (out, zc)) := by
  induction n generalizing i out zc with
  | zero =>
    subst h
    rfl
  | succ n ih =>
    have hrows : rows ds md ns i (n + 1) = row ds md i 0 ns ++ rows ds md ns (i + 1) n := rfl
    have hin : getPayload_loop2 ds md ns i ns 0 out zc = _ := inner_tie ds md ns i ns 0 out zc (Nat.zero_add _)
    rw [hrows, List.foldl_append, ← ih (i + 1) _ _ (by omega), Int.natCast_succ, getPayload_loop1,
      if_pos (show (i : Int) < nm by omega)]
    simp only [Int.sub_zero, Int.toNat_natCast, hin]

theorem region_tie (ds : List Int) (md : Int) (ns nm : Nat) (out : List Int) :
    getPayload_region ds md (ns : Int) (nm : Int) out = finish ((rows ds md ns 0 nm).foldl stepV (out, 0)) := by
  have ho : getPayload_loop1 ds md ns nm nm 0 out 0 = _ := outer_tie ds md ns nm nm 0 out 0 (Nat.zero_add _)
  simp only [getPayload_region, Int.sub_zero, Int.toNat_natCast, ho, finish]

/-- the bytes of a sequence of values handed to `encodeValue` -/
def emitBytes (vs : List Int) : Bytes := vs.flatMap fun v => putUvarint (BitVec.ofInt 64 v).toNat

theorem emitBytes_append (a b : List Int) : emitBytes (a ++ b) = emitBytes a ++ emitBytes b := by
  simp [emitBytes, List.flatMap_append]

theorem emitBytes_nil : emitBytes [] = [] := rfl

theorem emitBytes_cons (v : Int) (vs : List Int) :
    emitBytes (v :: vs) = putUvarint (BitVec.ofInt 64 v).toNat ++ emitBytes vs := by
  simp [emitBytes]

theorem toNat_ofInt_zero : (BitVec.ofInt 64 0).toNat = 0 := by decide

theorem emitBytes_finish (out : List Int) (zc : Nat) (hz : zc < 2 ^ 63) :
    emitBytes (finish (out, (zc : Int)))
      = emitBytes out ++ (if zc > 0 then putUvarint 0 ++ putUvarint (zc - 1) else []) := by
  by_cases hp : zc > 0
  · obtain ⟨k, rfl⟩ := Nat.exists_eq_add_one_of_ne_zero (Nat.ne_zero_of_lt hp)
    have h1 : (BitVec.ofInt 64 (((k + 1 : Nat) : Int) - 1)).toNat = k := by
      rw [Int.natCast_succ, Int.add_sub_cancel, BitVec.ofInt_natCast, BitVec.toNat_ofNat, Nat.mod_eq_of_lt (by omega)]
    simp only [finish, hp, Int.natCast_pos.2 hp, if_true, emitBytes_append, emitBytes_cons, emitBytes_nil, h1,
      toNat_ofInt_zero, Nat.add_sub_cancel, List.append_nil, List.append_assoc]
  · simp [finish, hp]

theorem emitBytes_finish_foldl (cells : List Int) (out : List Int) (zc : Nat)
    (hr : ∀ x ∈ cells, -2 ^ 63 ≤ x ∧ x < 2 ^ 63) (hz : zc + cells.length < 2 ^ 63) :
    emitBytes (finish (cells.foldl stepV (out, (zc : Int))))
      = emitBytes out ++ rleEncAux zc (cells.map (BitVec.ofInt 64)) := by
  induction cells generalizing out zc with
  | nil => exact emitBytes_finish out zc (by simpa using hz)
  | cons d ds ih =>
    obtain ⟨hd, hr'⟩ := List.forall_mem_cons.1 hr
    rw [List.length_cons] at hz
    rw [List.foldl_cons, List.map_cons, rleEncAux]
    by_cases h0 : d = 0
    · subst h0
      have : stepV (out, (zc : Int)) 0 = (out, ((zc + 1 : Nat) : Int)) := rfl
      rw [this, ih out (zc + 1) hr' (by omega)]
      simp
    · have hd' : (BitVec.ofInt 64 d).toInt = d := BitVec.toInt_ofInt_eq_self (by decide) hd.1 hd.2
      have hne : ¬ BitVec.ofInt 64 d = 0#64 := fun h => h0 (by rw [← hd', h, BitVec.toInt_zero])
      have : stepV (out, (zc : Int)) d = (finish (out, (zc : Int)) ++ [d], ((0 : Nat) : Int)) := by
        simp only [stepV, h0, if_false]
        congr 1
        split
        · rfl
        · omega
      rw [this, ih _ 0 hr' (by omega), emitBytes_append, emitBytes_finish out zc (by omega)]
      simp only [hne, if_false, emitBytes_cons, emitBytes_nil, encodeValue, List.append_nil, List.append_assoc]

/-- `ds` is the delta table (row length `md`, `nm` metrics, `ns` samples); `hr`: every cell is an `int64`; `hsz`: so is the
pending-zero counter, which can reach the number of cells. -/
theorem getPayload_region_is_rleEnc (ds : List Int) (md : Int) (ns nm : Nat)
    (hr : ∀ x ∈ ds, -2 ^ 63 ≤ x ∧ x < 2 ^ 63) (hsz : nm * ns < 2 ^ 63) :
    emitBytes (getPayload_region ds md (ns : Int) (nm : Int) [])
      = rleEnc ((rows ds md ns 0 nm).map (BitVec.ofInt 64)) := by
  rw [region_tie]
  have hcells : ∀ x ∈ rows ds md ns 0 nm, -2 ^ 63 ≤ x ∧ x < 2 ^ 63 := fun x hx =>
    (mem_rows hx).elim (fun h => h ▸ by decide) (hr x)
  have hrow : ∀ i, (row ds md i 0 ns).length = ns := fun i => by rw [row, List.length_map, List.length_range']
  have hlen : (rows ds md ns 0 nm).length = nm * ns := by
    rw [rows, flatten_length_const _ ns (List.forall_mem_map.2 fun i _ => hrow i)]
    simp
  have := emitBytes_finish_foldl (rows ds md ns 0 nm) [] 0 hcells (by omega)
  simpa [rleEnc, emitBytes] using this

/-- the delta table the collector keeps (`c.deltas`, row length `c.maxDeltas`) holds the model's per-metric deltas:
cell (metric i, sample j) is the j-th delta of metric i -/
def TableHolds (ds : List Int) (md : Int) (first : Row) (rws : List Row) : Prop :=
  ∀ i, i < first.length → ∀ j, j < rws.length →
    BitVec.ofInt 64 (cell ds md i j) = (deltas (first.getD i 0) (column rws i)).getD j 0

theorem rows_eq_cols (ds : List Int) (md : Int) (first : Row) (rws : List Row) (h : TableHolds ds md first rws) :
    (rows ds md rws.length 0 first.length).map (BitVec.ofInt 64)
      = ((List.range first.length).map fun i => deltas (first.getD i 0) (column rws i)).flatten := by
  unfold rows
  rw [List.map_flatten, List.map_map, List.range_eq_range']
  congr 1
  apply List.map_congr_left
  intro i hi
  have hi' : i < first.length := by simpa [List.mem_range'_1] using hi
  simp only [Function.comp_def, row, List.map_map]
  apply List.ext_getElem
  · simp [deltas_length, column]
  · intro j h1 h2
    simp only [List.length_map, List.length_range'] at h1
    simp only [List.getElem_map, List.getElem_range', Nat.zero_add, Nat.one_mul, h i hi' j h1]
    exact (List.getElem_eq_getD 0).symm

theorem payloadOf_is_go_loop (ref : BDoc) (first : Row) (rws : List Row) (ds : List Int) (md : Int)
    (h : TableHolds ds md first rws) (hr : ∀ x ∈ ds, -2 ^ 63 ≤ x ∧ x < 2 ^ 63)
    (hsz : first.length * rws.length < 2 ^ 63) :
    payloadOf ref first rws
      = serDoc ref ++ le32 first.length ++ le32 rws.length
          ++ emitBytes (getPayload_region ds md (rws.length : Int) (first.length : Int) []) := by
  rw [getPayload_region_is_rleEnc ds md rws.length first.length hr hsz, rows_eq_cols ds md first rws h]
  rfl

end Ftdc.PayloadTie
