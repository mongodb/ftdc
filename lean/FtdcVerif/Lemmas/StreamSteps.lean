import FtdcVerif.Lemmas.Collector
import FtdcVerif.Lemmas.Codec
/-!
# One-step equations of the streaming collectors

`Streaming.add` is "flush if full, then hand the sample to the wrapped collector" (`addInner`); the schema-aware
variant is "flush if the schema changed, then `Streaming.add`".  Every invariant of these collectors is proved
from the three-way case lemmas `Streaming.add_cases` / `StreamingDynamic.add_cases` and a fact about `flush` and
one about `addInner`.  `Streaming.content` (complete writes followed by the pending samples) obeys equations that
hold for every writer script; over a writer that never fails `flush` is the explicit `flush_of_ref`.
-/
namespace Ftdc

/-! ### the writer's log

Only complete writes count.  The log is read through `logDocs` (the documents; `C07.loggedDocs` is the same function),
`writtenRows` (their samples), `C08.chunkRows` (the samples chunk by chunk) and `C09.written` (how many samples). -/

def logDocs (w : Writer) : List OutDoc :=
  (w.log.map fun e => match e with
    | WEntry.full docs => docs
    | WEntry.partialWrite _ _ => []).flatten

namespace Props.C07
def writtenRows (w : Writer) : List Row :=
  (w.log.map fun e => match e with
    | WEntry.full docs => (docs.map OutDoc.samples).flatten
    | WEntry.partialWrite _ _ => []).flatten
end Props.C07
open Props.C07 (writtenRows)

theorem Writer.write_nil {w : Writer} (hs : w.script = []) (docs : List OutDoc) :
    w.write docs = ({ w with log := w.log ++ [.full docs] }, true) := by
  simp [Writer.write, hs]

theorem Writer.logDocs_full (w : Writer) (docs : List OutDoc) :
    logDocs { w with log := w.log ++ [.full docs] } = logDocs w ++ docs := by
  simp [logDocs]

theorem Writer.writtenRows_write (w : Writer) (docs : List OutDoc) :
    writtenRows (w.write docs).1 =
      writtenRows w ++ (if (w.write docs).2 then (docs.map OutDoc.samples).flatten else []) := by
  unfold Writer.write; split <;> simp [writtenRows]

namespace Streaming

def addInner (c : Streaming) (d : BDoc) : Streaming × SAddResult :=
  if (c.inner.add d).2 = .ok then ({ c with inner := (c.inner.add d).1, count := c.count + 1 }, .ok)
  else (c, .inner (c.inner.add d).2)

theorem add_cases (c : Streaming) (d : BDoc) :
    (c.count < c.maxSamples ∧ c.add d = c.addInner d) ∨
    (c.maxSamples ≤ c.count ∧ (c.flush).2 = false ∧ c.add d = ((c.flush).1, .flushErr)) ∨
    (c.maxSamples ≤ c.count ∧ (c.flush).2 = true ∧ c.add d = (c.flush).1.addInner d) := by
  unfold Streaming.add addInner
  by_cases hfull : c.count ≥ c.maxSamples
  · rw [if_pos hfull]
    cases hf : (c.flush).2
    · exact .inr (.inl ⟨hfull, rfl, by simp [hf]⟩)
    · exact .inr (.inr ⟨hfull, rfl, by simp [hf]⟩)
  · rw [if_neg hfull]
    exact .inl ⟨Nat.lt_of_not_ge hfull, rfl⟩

theorem addInner_ok {c : Streaming} {d : BDoc} (h : (c.inner.add d).2 = .ok) :
    c.addInner d = ({ c with inner := (c.inner.add d).1, count := c.count + 1 }, .ok) := by
  simp [addInner, h]

theorem addInner_rejected {c : Streaming} {d : BDoc} (h : (c.inner.add d).2 ≠ .ok) :
    c.addInner d = (c, .inner (c.inner.add d).2) := by
  simp [addInner, h]

theorem flush_of_no_ref {c : Streaming} (hi : c.inner.Inv) (hr : c.inner.ref = none) : c.flush = (c, true) := by
  simp [flush, info, Better.info, hr, (hi.1 hr).1]

theorem flush_of_resolve {c : Streaming} {docs : List OutDoc} (h : c.info.2 ≠ 0) (hr : c.inner.resolve = some docs) :
    c.flush = if (c.out.write docs).2 then ({ c with out := (c.out.write docs).1 }.reset, true)
      else ({ c with out := (c.out.write docs).1 }, false) := by
  simp only [flush, h, if_false, Streaming.resolve, hr]

theorem flush_of_ref {c : Streaming} {r : BDoc} (hs : c.out.script = []) (hr : c.inner.ref = some r) :
    c.flush = ({ c with out := { c.out with log := c.out.log ++ [WEntry.full
      (c.inner.metadata.toList.map (OutDoc.metaDoc c.inner.startedAt) ++
        [OutDoc.chunk c.inner.startedAt r c.inner.first c.inner.rows])] } }.reset, true) := by
  rw [flush_of_resolve (by simp [info, Better.info, hr]) (Better.resolve_of_ref hr), Writer.write_nil hs]
  rfl

theorem flush_ok_samples_nil {c : Streaming} (hok : (c.flush).2 = true) : (c.flush).1.inner.samples = [] := by
  revert hok
  fun_cases Streaming.flush c <;> intro hok
  · next h0 => exact Better.samples_nil_of_info_zero h0
  · cases hok
  · exact (Better.reset_empty _).1
  · cases hok

def content (c : Streaming) : List Row := writtenRows c.out ++ c.inner.samples

theorem reset_content (c : Streaming) : c.reset.content = writtenRows c.out := by
  simp [content, Streaming.reset, Better.reset, Better.samples]

theorem flush_content (c : Streaming) : (c.flush).1.content = c.content := by
  fun_cases Streaming.flush c
  · rfl
  · rfl
  · next docs hr w hw =>
    have := Writer.writtenRows_write c.out docs
    simp only [hw, if_true] at this
    rw [reset_content, content, ← Better.resolve_samples _ _ hr]
    exact this
  · next docs _ w ok hw hok =>
    have := Writer.writtenRows_write c.out docs
    simp only [hw, hok] at this
    simp [content, this]

theorem addInner_out (c : Streaming) (d : BDoc) : (c.addInner d).1.out = c.out := by
  unfold addInner; split <;> rfl

theorem addInner_inv {c : Streaming} (d : BDoc) (h : c.inner.Inv) : (c.addInner d).1.inner.Inv := by
  unfold addInner; split
  · exact Better.add_inv _ d h
  · exact h

theorem addInner_samples (c : Streaming) (d : BDoc) :
    (c.addInner d).1.inner.samples = c.inner.samples ++ (if (c.addInner d).2 = .ok then [vals d] else []) := by
  by_cases hok : (c.inner.add d).2 = .ok
  · simp [addInner_ok hok, Better.add_ok_appends _ _ hok, vals]
  · simp [addInner_rejected hok]

theorem addInner_content (c : Streaming) (d : BDoc) :
    (c.addInner d).1.content = c.content ++ (if (c.addInner d).2 = .ok then [vals d] else []) := by
  rw [content, addInner_out, addInner_samples, ← List.append_assoc]; rfl

theorem add_content (c : Streaming) (d : BDoc) :
    (c.add d).1.content = c.content ++ (if (c.add d).2 = .ok then [vals d] else []) := by
  rcases add_cases c d with ⟨_, e⟩ | ⟨_, _, e⟩ | ⟨_, _, e⟩ <;> rw [e]
  · exact addInner_content c d
  · simp [flush_content]
  · rw [addInner_content, flush_content]

/-- `add_content` in the form the folds over a history use -/
theorem add_log (c : Streaming) (d : BDoc) {acc : List BDoc} (h : c.content = acc.map vals) :
    (c.add d).1.content = (if (c.add d).2 = .ok then acc ++ [d] else acc).map vals := by
  rw [add_content, h]; split <;> simp

end Streaming

namespace StreamingDynamic

/-- the two tests `add` makes inline, named for the case lemmas (`UStreamingDynamic.needFlush` is the model's `Bool`) -/
def needFlush (c : StreamingDynamic) (d : BDoc) : Prop :=
  match c.hash with
  | none => c.s.count > 0
  | some h => h ≠ schemaKey d

theorem needFlush_of_no_hash {c : StreamingDynamic} (h : c.hash = none) (d : BDoc) : c.needFlush d ↔ c.s.count > 0 := by
  rw [needFlush, h]

theorem needFlush_of_hash {c : StreamingDynamic} {k : Bytes × Nat} (h : c.hash = some k) (d : BDoc) :
    c.needFlush d ↔ k ≠ schemaKey d := by
  rw [needFlush, h]

theorem flush_fst_s (c : StreamingDynamic) : (c.flush).1.s = (c.s.flush).1 := by
  unfold flush; dsimp only; split <;> rfl

theorem flush_snd (c : StreamingDynamic) : (c.flush).2 = (c.s.flush).2 := by
  unfold flush; dsimp only; split
  · next h => exact h.1.symm
  · rfl

theorem add_cases (c : StreamingDynamic) (d : BDoc) :
    (¬ c.needFlush d ∧ c.add d = ({ s := (c.s.add d).1, hash := some (schemaKey d) }, (c.s.add d).2)) ∨
    (c.needFlush d ∧ (c.flush).2 = false ∧ c.add d = ((c.flush).1, .flushErr)) ∨
    (c.needFlush d ∧ (c.flush).2 = true ∧
      c.add d = ({ s := ((c.flush).1.s.add d).1, hash := some (schemaKey d) }, ((c.flush).1.s.add d).2)) := by
  unfold needFlush add
  cases c.hash with
  | none => by_cases hp : c.s.count > 0 <;> cases hf : (c.flush).2 <;> simp [hp, hf]
  | some h => by_cases hp : h ≠ schemaKey d <;> cases hf : (c.flush).2 <;> simp [hp, hf]

theorem add_noflush {c : StreamingDynamic} {d : BDoc} (h : ¬ c.needFlush d) :
    c.add d = ({ s := (c.s.add d).1, hash := some (schemaKey d) }, (c.s.add d).2) := by
  rcases add_cases c d with ⟨_, e⟩ | ⟨h', _⟩ | ⟨h', _⟩
  · exact e
  · exact absurd h' h
  · exact absurd h' h

theorem add_flush {c : StreamingDynamic} {d : BDoc} (h : c.needFlush d) (hf : (c.flush).2 = true) :
    c.add d = ({ s := ((c.flush).1.s.add d).1, hash := some (schemaKey d) }, ((c.flush).1.s.add d).2) := by
  rcases add_cases c d with ⟨h', _⟩ | ⟨_, hf', _⟩ | ⟨_, _, e⟩
  · exact absurd h h'
  · rw [hf] at hf'; cases hf'
  · exact e

theorem flush_content (c : StreamingDynamic) : (c.flush).1.s.content = c.s.content := by
  rw [flush_fst_s, Streaming.flush_content]

theorem add_content (c : StreamingDynamic) (d : BDoc) :
    (c.add d).1.s.content = c.s.content ++ (if (c.add d).2 = .ok then [vals d] else []) := by
  rcases add_cases c d with ⟨_, e⟩ | ⟨_, _, e⟩ | ⟨_, _, e⟩ <;> rw [e]
  · exact Streaming.add_content c.s d
  · simp [flush_content]
  · show ((c.flush).1.s.add d).1.content = _
    rw [Streaming.add_content, flush_content]

theorem add_log (c : StreamingDynamic) (d : BDoc) {acc : List BDoc} (h : c.s.content = acc.map vals) :
    (c.add d).1.s.content = (if (c.add d).2 = .ok then acc ++ [d] else acc).map vals := by
  rw [add_content, h]; split <;> simp

end StreamingDynamic
end Ftdc
