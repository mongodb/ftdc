import FtdcVerif.Model.Collector
/-!
# The base and batch collectors as bounded, faithful logs

`samples` is what a collector holds.  `Batch.add`/`Dynamic.add` are stated on `chunks = init ++ [last]`.  The dynamic
collector's log is `C08.GD`.
-/
namespace Ftdc

def Better.samples (c : Better) : List Row := if c.ref.isSome then c.first :: c.rows else []

/-- what `add` and `reset` keep.  First clause: `info` counts `rows` with or without a reference document, `samples` only
with one; `info_counts_samples` needs them to agree. -/
def Better.Inv (c : Better) : Prop :=
  (c.ref = none → c.rows = [] ∧ c.first = []) ∧ c.rows.length ≤ c.maxDeltas ∧
  (c.ref.isSome → c.first.length = c.last.length ∧ ∀ r ∈ c.rows, r.length = c.last.length)

theorem Better.add_ok_appends (c : Better) (d : BDoc) (h : (c.add d).2 = .ok) :
    (c.add d).1.samples = c.samples ++ [(extractDoc d).map (·.1)] := by
  revert h
  fun_cases Better.add c d
  · simp [Better.samples, *]; rfl
  · nofun
  · nofun
  · nofun
  · simp [Better.samples, *]; rfl

theorem Better.add_rejected_noop (c : Better) (d : BDoc) (h : (c.add d).2 ≠ .ok) : (c.add d).1 = c := by
  revert h
  fun_cases Better.add c d <;> simp

theorem Better.add_fresh (n : Nat) (d : BDoc) :
    (Better.add { maxDeltas := n } d).2 = .ok ∧
    (Better.add { maxDeltas := n } d).1.samples = [(extractDoc d).map (·.1)] ∧
    (Better.add { maxDeltas := n } d).1.maxDeltas = n := by
  simp [Better.add, Better.samples]

theorem Better.add_maxDeltas (c : Better) (d : BDoc) : (c.add d).1.maxDeltas = c.maxDeltas := by
  fun_cases Better.add c d <;> rfl

theorem Better.info_counts_samples (c : Better) (h : c.Inv) : c.info.2 = c.samples.length := by
  unfold Better.info Better.samples
  cases hr : c.ref with
  | none => have := (h.1 hr).1; simp [this]
  | some r => simp [Nat.add_comm]

theorem Better.reset_empty (c : Better) : c.reset.samples = [] ∧ c.reset.info.2 = 0 := by
  simp [Better.reset, Better.samples, Better.info]

theorem Better.reset_inv (c : Better) : c.reset.Inv := by
  simp [Better.reset, Better.Inv]

theorem Better.add_inv (c : Better) (d : BDoc) (h : c.Inv) : (c.add d).1.Inv := by
  fun_cases Better.add c d
  · simp [Better.Inv]
  · exact h
  · exact h
  · exact h
  · rename_i r hr hroom hm _
    have hs := h.2.2 (by simp [hr])
    rw [← Decidable.not_not.1 hm] at hs
    simp only [Better.Inv, hr]
    exact ⟨nofun, by simp; omega, fun _ => ⟨hs.1, List.forall_mem_append.2 ⟨hs.2, by simp⟩⟩⟩

theorem Better.samples_bounded (c : Better) (h : c.Inv) : c.samples.length ≤ c.maxDeltas + 1 := by
  unfold Better.samples
  cases c.ref <;> simp
  exact h.2.1

theorem Better.resolve_of_ref {c : Better} {r : BDoc} (hr : c.ref = some r) :
    c.resolve = some (c.metadata.toList.map (OutDoc.metaDoc c.startedAt) ++ [.chunk c.startedAt r c.first c.rows]) := by
  unfold Better.resolve; rw [hr]; cases c.metadata <;> rfl

theorem Better.samples_of_ref {c : Better} {r : BDoc} (hr : c.ref = some r) : c.samples = c.first :: c.rows := by
  simp [Better.samples, hr]

theorem Better.resolve_samples (c : Better) (o : List OutDoc) (h : c.resolve = some o) :
    (o.map OutDoc.samples).flatten = c.samples := by
  cases hr : c.ref with
  | none => simp [Better.resolve, hr] at h
  | some r =>
    rw [Better.resolve_of_ref hr, Option.some.injEq] at h
    subst h
    cases c.metadata <;> simp [OutDoc.samples, Better.samples_of_ref hr]

theorem Better.samples_eq_nil_iff (c : Better) : c.samples = [] ↔ c.ref = none := by
  unfold Better.samples
  cases c.ref <;> simp

/-- `info` counts the reference document -/
theorem Better.samples_nil_of_info_zero {c : Better} (h : c.info.2 = 0) : c.samples = [] := by
  cases hr : c.ref with
  | none => exact (Better.samples_eq_nil_iff c).2 hr
  | some r => simp [Better.info, hr] at h

theorem Better.add_empty {c : Better} (d : BDoc) (h : c.samples = []) : (c.add d).2 = .ok := by
  simp [Better.add, (Better.samples_eq_nil_iff c).1 h]

theorem Better.resolve_none_iff (c : Better) : c.resolve = none ↔ c.samples = [] := by
  unfold Better.resolve Better.samples
  cases c.ref <;> cases c.metadata <;> simp

/-! ### operation histories -/

/-- the operations of the `Collector` interface (`addBad` = an unreadable value) -/
inductive COp where
  | add (d : BDoc) | addBad | resolve | reset | setMeta (d : BDoc) | info

def Better.step (c : Better) : COp → Better
  | .add d => (c.add d).1
  | .reset => c.reset
  | .setMeta d => c.setMetadata d
  | _ => c

def Better.run (c : Better) (ops : List COp) : Better := ops.foldl Better.step c

/-- the specification log: the samples accepted (by the return value of `Add`) since the last
`Reset`, replayed along the history -/
def Better.accepted : Better → List Row → List COp → List Row
  | _, log, [] => log
  | c, log, .add d :: ops =>
      Better.accepted (c.step (.add d)) (if (c.add d).2 = .ok then log ++ [(extractDoc d).map (·.1)] else log) ops
  | c, _, .reset :: ops => Better.accepted (c.step .reset) [] ops
  | c, log, op :: ops => Better.accepted (c.step op) log ops

theorem Better.step_inv (c : Better) (op : COp) (h : c.Inv) : (c.step op).Inv := by
  cases op with
  | add d => exact Better.add_inv c d h
  | reset => exact Better.reset_inv c
  | _ => exact h

theorem Better.step_maxDeltas (c : Better) (op : COp) : (c.step op).maxDeltas = c.maxDeltas := by
  cases op with
  | add d => exact Better.add_maxDeltas c d
  | _ => rfl

theorem Better.faithful_log (ops : List COp) : ∀ (c : Better),
    (c.run ops).samples = Better.accepted c c.samples ops := by
  induction ops with
  | nil => intro c; rfl
  | cons op ops ih =>
    intro c
    rw [show c.run (op :: ops) = (c.step op).run ops from rfl, ih]
    cases op with
    | add d =>
      simp only [Better.accepted]
      congr 1
      by_cases hok : (c.add d).2 = .ok
      · simp [hok, Better.step, Better.add_ok_appends c d hok]
      · simp [hok, Better.step, Better.add_rejected_noop c d hok]
    | _ => rfl

theorem Better.run_inv (ops : List COp) : ∀ (c : Better), c.Inv → (c.run ops).Inv := fun _ h =>
  List.foldlRecOn ops Better.step h fun c h op _ => Better.step_inv c op h

theorem Better.run_maxDeltas (ops : List COp) (c : Better) : (c.run ops).maxDeltas = c.maxDeltas :=
  List.foldlRecOn (motive := fun x => x.maxDeltas = c.maxDeltas) ops Better.step rfl
    fun x h op _ => (x.step_maxDeltas op).trans h

theorem Better.fresh_inv (n : Nat) : ({ maxDeltas := n } : Better).Inv := by
  simp [Better.Inv]

/-! ### batchCollector -/

def Batch.samples (b : Batch) : List Row := (b.chunks.map Better.samples).flatten

/-- There is always a chunk (`newBatchCollector` allocates the first).  Each is a base collector of capacity `maxSamples`
that holds at most `maxSamples` samples, not the `maxDeltas + 1` it would take: `Add` opens a new chunk once the last
reports `maxSamples` (collector_batch.go:58).  So all but the last hold exactly that many.  `pos`: with `maxSamples = 0`
every `Add` would open a chunk, of one sample. -/
structure Batch.Inv (b : Batch) : Prop where
  pos : 1 ≤ b.maxSamples
  ne : b.chunks ≠ []
  each : ∀ c ∈ b.chunks, c.Inv ∧ c.maxDeltas = b.maxSamples ∧ c.samples.length ≤ b.maxSamples
  full : ∀ c ∈ b.chunks.dropLast, c.samples.length = b.maxSamples

theorem Batch.add_full {b : Batch} {init : List Better} {last : Better} (d : BDoc)
    (hc : b.chunks = init ++ [last]) (hf : last.info.2 ≥ b.maxSamples) :
    b.add d = ({ b with chunks := b.chunks ++ [(Better.add { maxDeltas := b.maxSamples } d).1] },
      (Better.add { maxDeltas := b.maxSamples } d).2) := by
  simp [Batch.add, hc, hf]

theorem Batch.add_room {b : Batch} {init : List Better} {last : Better} (d : BDoc)
    (hc : b.chunks = init ++ [last]) (hf : ¬ last.info.2 ≥ b.maxSamples) :
    b.add d = ({ b with chunks := init ++ [(last.add d).1] }, (last.add d).2) := by
  simp [Batch.add, hc, hf]

theorem Batch.Inv.chunks_eq {b : Batch} (hi : b.Inv) : ∃ init last, b.chunks = init ++ [last] :=
  ⟨_, _, (List.dropLast_concat_getLast hi.ne).symm⟩

theorem Batch.add_maxSamples (b : Batch) (d : BDoc) : (b.add d).1.maxSamples = b.maxSamples := by
  fun_cases Batch.add b d <;> rfl

theorem Batch.setMetadata_maxSamples (b : Batch) (d : BDoc) : (b.setMetadata d).maxSamples = b.maxSamples := by
  unfold Batch.setMetadata
  split <;> rfl

theorem Batch.add_ok_appends (b : Batch) (d : BDoc) (hi : b.Inv) (h : (b.add d).2 = .ok) :
    (b.add d).1.samples = b.samples ++ [(extractDoc d).map (·.1)] := by
  obtain ⟨init, last, hc⟩ := hi.chunks_eq
  by_cases hf : last.info.2 ≥ b.maxSamples
  · simp [Batch.add_full d hc hf, Batch.samples, (Better.add_fresh b.maxSamples d).2.1]
  · rw [Batch.add_room d hc hf] at h ⊢
    simp [Batch.samples, hc, Better.add_ok_appends last d h]

theorem Batch.add_rejected_noop (b : Batch) (d : BDoc) (hi : b.Inv) (h : (b.add d).2 ≠ .ok) :
    (b.add d).1 = b := by
  obtain ⟨init, last, hc⟩ := hi.chunks_eq
  by_cases hf : last.info.2 ≥ b.maxSamples
  · rw [Batch.add_full d hc hf] at h
    exact absurd (Better.add_fresh b.maxSamples d).1 h
  · rw [Batch.add_room d hc hf] at h ⊢
    simp [Better.add_rejected_noop last d h, ← hc]

theorem Batch.add_inv (b : Batch) (d : BDoc) (hi : b.Inv) : (b.add d).1.Inv := by
  obtain ⟨init, last, hc⟩ := hi.chunks_eq
  have heach := hi.each
  have hfull := hi.full
  rw [hc] at heach
  rw [hc, List.dropLast_concat] at hfull
  obtain ⟨hinit, hlast⟩ := List.forall_mem_append.1 heach
  replace hlast := List.forall_mem_singleton.1 hlast
  have hinfo := Better.info_counts_samples last hlast.1
  by_cases hf : last.info.2 ≥ b.maxSamples
  · -- the full last chunk joins the full ones; the fresh chunk holds one sample
    have hfr := Better.add_fresh b.maxSamples d
    rw [Batch.add_full d hc hf, hc]
    rw [hinfo] at hf
    refine {
      pos := hi.pos
      ne := by simp
      each := List.forall_mem_append.2 ⟨heach, List.forall_mem_singleton.2 ?_⟩
      full := ?_ }
    · exact ⟨Better.add_inv _ d (Better.fresh_inv _), hfr.2.2, by rw [hfr.2.1]; exact hi.pos⟩
    · rw [List.dropLast_concat]
      exact List.forall_mem_append.2 ⟨hfull, List.forall_mem_singleton.2 (Nat.le_antisymm hlast.2.2 hf)⟩
  · rw [Batch.add_room d hc hf]
    refine {
      pos := hi.pos
      ne := by simp
      each := List.forall_mem_append.2 ⟨hinit, List.forall_mem_singleton.2 ?_⟩
      full := by rwa [List.dropLast_concat] }
    refine ⟨Better.add_inv last d hlast.1, (Better.add_maxDeltas last d).trans hlast.2.1, ?_⟩
    by_cases hok : (last.add d).2 = .ok
    · rw [hinfo] at hf
      rw [Better.add_ok_appends last d hok, List.length_append, List.length_singleton]
      exact Nat.succ_le_of_lt (Nat.lt_of_not_ge hf)
    · rw [Better.add_rejected_noop last d hok]; exact hlast.2.2

theorem Batch.run_inv (n : Nat) (ds : List BDoc) (b0 : Batch) (h0 : b0.Inv ∧ b0.maxSamples = n) :
    (ds.foldl (fun b d => (b.add d).1) b0).Inv ∧ (ds.foldl (fun b d => (b.add d).1) b0).maxSamples = n :=
  List.foldlRecOn (motive := fun b => b.Inv ∧ b.maxSamples = n) ds _ h0
    fun b h d _ => ⟨Batch.add_inv b d h.1, (Batch.add_maxSamples b d).trans h.2⟩

theorem Batch.new_inv (n : Nat) (h : 1 ≤ n) : (Batch.new n).Inv where
  pos := h
  ne := by simp [Batch.new]
  each := by
    intro c hc
    simp only [Batch.new, List.mem_singleton] at hc
    subst hc
    exact ⟨Better.fresh_inv n, rfl, by simp [Better.samples]⟩
  full := by simp [Batch.new]

theorem Batch.new_samples (n : Nat) : (Batch.new n).samples = [] := by
  simp [Batch.new, Batch.samples, Better.samples]

theorem Batch.add_empty (b : Batch) (d : BDoc) (hi : b.Inv) (he : b.samples = []) :
    (b.add d).2 = .ok ∧ (b.add d).1.samples = [(extractDoc d).map (·.1)] := by
  obtain ⟨init, last, hc⟩ := hi.chunks_eq
  -- the last chunk holds nothing: it has room and no reference document
  have hlast : last.samples = [] :=
    List.flatten_eq_nil_iff.1 he _ (List.mem_map_of_mem (by simp [hc]))
  have hroom : ¬ last.info.2 ≥ b.maxSamples := by
    rw [Better.info_counts_samples last (hi.each last (by simp [hc])).1, hlast]
    exact Nat.not_le_of_lt hi.pos
  have hok : (b.add d).2 = .ok := by
    rw [Batch.add_room d hc hroom]
    exact Better.add_empty d hlast
  exact ⟨hok, by rw [Batch.add_ok_appends b d hi hok, he]; rfl⟩

theorem Batch.add_new (n : Nat) (hn : 1 ≤ n) (d : BDoc) :
    ((Batch.new n).add d).2 = .ok ∧ ((Batch.new n).add d).1.samples = [(extractDoc d).map (·.1)] ∧
    ((Batch.new n).add d).1.Inv ∧ ((Batch.new n).add d).1.maxSamples = n := by
  have hi := Batch.new_inv n hn
  obtain ⟨hok, hs⟩ := Batch.add_empty _ d hi (Batch.new_samples n)
  exact ⟨hok, hs, Batch.add_inv _ d hi, Batch.add_maxSamples _ d⟩

/-! ### dynamicCollector: where `Add` puts the sample -/

theorem Dynamic.add_first {c : Dynamic} {b : Batch} {r : List Batch} (d : BDoc) (hh : c.hash = none)
    (hc : c.chunks = b :: r) :
    c.add d = ({ c with hash := some (schemaKey d), chunks := (b.add d).1 :: r }, (b.add d).2) := by
  simp [Dynamic.add, hh, hc]

theorem Dynamic.add_same {c : Dynamic} {h : Bytes × Nat} {init : List Batch} {last : Batch} (d : BDoc)
    (hh : c.hash = some h) (hk : h.1 = (schemaKey d).1) (hc : c.chunks = init ++ [last]) :
    c.add d = ({ c with chunks := init ++ [(last.add d).1] }, (last.add d).2) := by
  simp [Dynamic.add, hh, hk, hc]

theorem Dynamic.add_other {c : Dynamic} {h : Bytes × Nat} (d : BDoc) (hh : c.hash = some h)
    (hk : h.1 ≠ (schemaKey d).1) :
    c.add d = ({ c with hash := some (schemaKey d), chunks := c.chunks ++ [((Batch.new c.maxSamples).add d).1] },
      ((Batch.new c.maxSamples).add d).2) := by
  simp [Dynamic.add, hh, hk]

/-! ### `Resolve` of a collector made of parts -/

theorem foldl_resolve_none {α : Type} (f : α → Option (List OutDoc)) (cs : List α) :
    cs.foldl (fun a b => match a, f b with
      | some l, some o => some (l ++ o)
      | _, _ => none) none = none := by
  induction cs with
  | nil => rfl
  | cons c cs ih => exact ih

/-- the fold that `Batch.resolve` (over `Better.resolve`) and `Dynamic.resolve` (over `Batch.resolve`) are succeeds iff
every part resolves, and then yields the parts' outputs in order (`allHold_resolve`, `resolve_batches` redo it with
ghosts) -/
theorem foldl_resolve_eq {α : Type} (f : α → Option (List OutDoc)) (cs : List α) (acc : List OutDoc) :
    cs.foldl (fun a b => match a, f b with
      | some l, some o => some (l ++ o)
      | _, _ => none) (some acc) =
    if ∀ c ∈ cs, (f c).isSome then some (acc ++ (cs.filterMap f).flatten) else none := by
  induction cs generalizing acc with
  | nil => simp
  | cons c cs ih =>
    rw [List.foldl_cons]
    cases hc : f c with
    | none =>
      simp [hc]
      exact foldl_resolve_none f cs
    | some o => simp [hc, ih]

theorem Batch.resolve_some {b : Batch} {out : List OutDoc} (h : b.resolve = some out) :
    out = (b.chunks.filterMap Better.resolve).flatten := by
  have := (foldl_resolve_eq Better.resolve b.chunks []).symm.trans h
  split at this
  · simpa using this.symm
  · cases this

theorem Batch.resolve_samples (b : Batch) (out : List OutDoc) (h : b.resolve = some out) :
    (out.map OutDoc.samples).flatten = b.samples := by
  rw [Batch.resolve_some h, Batch.samples]
  induction b.chunks with
  | nil => rfl
  | cons c cs ih =>
    cases hc : c.resolve with
    -- a part that does not resolve holds no samples
    | none => simpa [hc, (Better.resolve_none_iff c).1 hc] using ih
    | some l => simp [hc, Better.resolve_samples c l hc, ← ih]

end Ftdc
