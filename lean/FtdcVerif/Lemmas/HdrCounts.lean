/-!
# A counts array and the list it counts

A counts array `c : List Int` is read by `c.getD k 0`, its prefix sums are `pre c k`.  If entry `k` is the number
of elements `a` of a list with `ι a = k`, the prefix sum up to `k` is the number of those with `ι a < k`
(`pre_eq_countP`); once a prefix sum of non-negative counts has reached the total, the rest is zero (`tail_zero`).
Recording and merging add weights at indices (`addAll`): entry `i` grows by the weights added at `i` (`addAll_getD`).
A sum over the indices weighted by such counts is a sum over the elements (`sum_counts_range'`: Mean, Merge).
The last four lemmas read a range of indices that `takeWhile` has cut or `filter` has thinned: the shapes of the
iterator's list.
-/
namespace Ftdc.Hdr

theorem getD_modify_add (c : List Int) (j : Nat) (n : Int) (hj : j < c.length) (i : Nat) :
    (c.modify j (· + n)).getD i 0 = c.getD i 0 + (if i = j then n else 0) := by
  rw [List.getD_eq_getElem?_getD, List.getD_eq_getElem?_getD]
  by_cases hi : i = j
  · subst hi; rw [List.getElem?_modify_eq, List.getElem?_eq_getElem hj, if_pos rfl]; rfl
  · rw [List.getElem?_modify_ne _ _ (Ne.symm hi), if_neg hi, Int.add_zero]

theorem sum_modify (l : List Int) (i : Nat) (n : Int) (hi : i < l.length) :
    (l.modify i (· + n)).sum = l.sum + n := by
  obtain ⟨l₁, a, l₂, rfl, _, e⟩ := List.exists_of_modify (· + n) hi
  rw [e, List.sum_append, List.sum_append, List.sum_cons, List.sum_cons]
  omega

theorem modify_nonneg (l : List Int) (i : Nat) (n : Int) (hn : 0 ≤ n) (h : ∀ c ∈ l, 0 ≤ c) :
    ∀ c ∈ l.modify i (· + n), 0 ≤ c := by
  intro c hc
  obtain ⟨k, hk, rfl⟩ := List.mem_iff_getElem.1 hc
  rw [List.getElem_modify]
  have := h _ (List.getElem_mem (by simpa using hk))
  split <;> omega

theorem map_modify {α β : Type} (g : α → β) (f : α → α) (f' : β → β) (hc : ∀ x, g (f x) = f' (g x)) :
    ∀ (l : List α) (k : Nat), (l.modify k f).map g = (l.map g).modify k f'
  | [], k => by simp
  | a :: l, 0 => by simp [hc]
  | a :: l, k + 1 => by simp [List.modify_succ_cons, map_modify g f f' hc l k]

theorem sum_pos_eq_sum (l : List Int) (h : ∀ c ∈ l, 0 ≤ c) :
    l.foldl (fun t c => if c > 0 then t + c else t) 0 = l.sum := by
  rw [List.sum_eq_foldl]
  refine List.foldl_rel (r := Eq) rfl fun c hc t _ e => ?_
  have := h c hc
  subst e
  split <;> omega

/-- the weights `w x` of the admitted elements added to a counts array, each at its index `ix x`:
what `recordAll` and `Merge` do to the counts -/
def addAll {α : Type} (ok : α → Bool) (ix : α → Nat) (w : α → Int) (c : List Int) (L : List α) : List Int :=
  L.foldl (fun c x => if ok x then c.modify (ix x) (· + w x) else c) c

theorem addAll_length {α : Type} (ok : α → Bool) (ix : α → Nat) (w : α → Int) (c : List Int) (L : List α) :
    (addAll ok ix w c L).length = c.length :=
  List.foldlRecOn (motive := fun c' : List Int => c'.length = c.length) L _ rfl fun c' hc x _ => by
    split
    · rw [List.length_modify, hc]
    · exact hc

theorem addAll_getD {α : Type} (ok : α → Bool) (ix : α → Nat) (w : α → Int) (L : List α) (i : Nat) :
    ∀ c : List Int, (∀ x ∈ L, ok x = true → ix x < c.length) →
      (addAll ok ix w c L).getD i 0 = c.getD i 0 + (L.map fun x => if ok x && ix x == i then w x else 0).sum := by
  induction L with
  | nil => intro c _; simp [addAll]
  | cons x L ih =>
    intro c hlt
    have ih' := fun c' (hc' : c'.length = c.length) => ih c' fun y hy => hc' ▸ hlt y (List.mem_cons_of_mem _ hy)
    simp only [addAll, List.foldl_cons, List.map_cons, List.sum_cons] at ih' ⊢
    cases hx : ok x with
    | false => rw [if_neg Bool.false_ne_true, ih' c rfl, Bool.false_and, if_neg Bool.false_ne_true, Int.zero_add]
    | true =>
      rw [if_pos rfl, ih' _ (List.length_modify ..), getD_modify_add _ _ _ (hlt x (List.mem_cons_self ..) hx), Bool.true_and,
        Int.add_assoc]
      by_cases hi : i = ix x
      · rw [if_pos hi, if_pos (by rw [hi]; exact beq_self_eq_true _)]
      · rw [if_neg hi, if_neg (by simpa using fun e => hi e.symm)]

theorem sum_ite_one {α : Type} (l : List α) (P : α → Bool) :
    (l.map fun a => if P a then (1 : Int) else 0).sum = ((l.countP P : Nat) : Int) := by
  induction l with
  | nil => rfl
  | cons a l ih => rw [List.map_cons, List.sum_cons, ih, List.countP_cons]; split <;> simp <;> omega

theorem ext_getD {a b : List Int} (hl : a.length = b.length) (h : ∀ i, a.getD i 0 = b.getD i 0) : a = b :=
  List.ext_getElem hl fun i _ _ => by rw [List.getElem_eq_getD 0, List.getElem_eq_getD 0]; exact h i

/-- the sum of the entries before index `k`: the iterator's running count (`countToIdx` in hdr.go) on arriving there -/
def pre (c : List Int) (k : Nat) : Int := (c.take k).sum

theorem pre_succ (c : List Int) (k : Nat) : pre c (k + 1) = pre c k + c.getD k 0 := by
  unfold pre
  rw [List.take_add_one, List.sum_append, List.getD_eq_getElem?_getD]
  cases c[k]? <;> simp

theorem pre_all (c : List Int) {k : Nat} (hk : c.length ≤ k) : pre c k = c.sum := by
  unfold pre; rw [List.take_of_length_le hk]

theorem pre_zero (c : List Int) : ∀ (k : Nat), (∀ i, i < k → c.getD i 0 = 0) → pre c k = 0 := by
  intro k
  induction k with
  | zero => intro _; simp [pre]
  | succ k ih =>
    intro h
    rw [pre_succ, ih (fun i hi => h i (by omega)), h k (by omega)]; rfl

theorem countP_lt_succ {α : Type} (l : List α) (ι : α → Nat) (k : Nat) :
    (l.countP fun a => decide (ι a < k + 1)) =
      (l.countP fun a => decide (ι a < k)) + (l.countP fun a => ι a == k) := by
  induction l with
  | nil => rfl
  | cons a l ih =>
    simp only [List.countP_cons, ih]
    rcases Nat.lt_trichotomy (ι a) k with h | h | h
    · simp [h, Nat.lt_succ_of_lt h, Nat.ne_of_lt h]; omega
    · simp [h]; omega
    · simp [Nat.lt_asymm h, Nat.not_lt.2 (Nat.succ_le_of_lt h), Nat.ne_of_gt h]

theorem pre_eq_countP {α : Type} (c : List Int) (l : List α) (ι : α → Nat)
    (hc : ∀ i, c.getD i 0 = ((l.countP fun a => ι a == i : Nat) : Int)) (k : Nat) :
    pre c k = ((l.countP fun a => decide (ι a < k) : Nat) : Int) := by
  induction k with
  | zero => simp [pre]
  | succ k ih => rw [pre_succ, ih, hc k, countP_lt_succ]; push_cast; rfl

theorem sum_nonneg (c : List Int) (hn : ∀ x ∈ c, 0 ≤ x) : 0 ≤ c.sum := by
  induction c with
  | nil => exact Int.le_refl _
  | cons a c ih =>
    have := ih fun x hx => hn x (List.mem_cons_of_mem _ hx)
    have := hn a (List.mem_cons_self ..)
    rw [List.sum_cons]
    omega

theorem eq_zero_of_sum_le_zero (c : List Int) (hn : ∀ x ∈ c, 0 ≤ x) (h : c.sum ≤ 0) : ∀ x ∈ c, x = 0 := by
  intro x hx
  obtain ⟨l₁, l₂, rfl⟩ := List.append_of_mem hx
  have h1 := sum_nonneg l₁ fun y hy => hn y (List.mem_append_left _ hy)
  have h2 := sum_nonneg l₂ fun y hy => hn y (List.mem_append_right _ (List.mem_cons_of_mem _ hy))
  have := hn x hx
  rw [List.sum_append, List.sum_cons] at h
  omega

theorem pre_add_drop (c : List Int) (k : Nat) : pre c k + (c.drop k).sum = c.sum := by
  unfold pre; rw [← List.sum_append, List.take_append_drop]

theorem pre_le_sum (c : List Int) (hn : ∀ x ∈ c, 0 ≤ x) (k : Nat) : pre c k ≤ c.sum := by
  have := sum_nonneg (c.drop k) fun x hx => hn x (List.mem_of_mem_drop hx)
  have := pre_add_drop c k
  omega

theorem tail_zero (c : List Int) (hn : ∀ x ∈ c, 0 ≤ x) (j : Nat) (hj : c.sum ≤ pre c j) :
    ∀ i, j ≤ i → c.getD i 0 = 0 := by
  intro i hji
  obtain ⟨d, rfl⟩ := Nat.exists_eq_add_of_le hji
  have hz := eq_zero_of_sum_le_zero (c.drop j) (fun x hx => hn x (List.mem_of_mem_drop hx))
    (by have := pre_add_drop c j; omega)
  rw [List.getD_eq_getElem?_getD, ← List.getElem?_drop]
  cases hx : (c.drop j)[d]? with
  | none => rfl
  | some x => exact hz x (List.mem_of_getElem? hx)

theorem sum_split_at {α : Type} (l : List α) (ι : α → Nat) (F : Nat → Int) (j : Nat) :
    (l.map fun a => if j ≤ ι a then F (ι a) else 0).sum =
      ((l.countP fun a => ι a == j : Nat) : Int) * F j + (l.map fun a => if j + 1 ≤ ι a then F (ι a) else 0).sum := by
  induction l with
  | nil => simp
  | cons a l ih =>
    simp only [List.map_cons, List.sum_cons, List.countP_cons, ih]
    rcases Nat.lt_trichotomy (ι a) j with h | h | h
    · simp [Nat.not_le.2 h, Nat.ne_of_lt h, Nat.not_le.2 (Nat.lt_succ_of_lt h)]
    · simp [h, Int.add_mul]; omega
    · simp [Nat.le_of_lt h, Nat.ne_of_gt h, Nat.succ_le_of_lt h]; omega

/-- double counting: if entry `k` of `c` counts the elements of index `k`, a sum over the indices in
`[j, j + n)` weighted by `c` is a sum over the elements of index at least `j` -/
theorem sum_counts_range' {α : Type} (c : List Int) (l : List α) (ι : α → Nat)
    (hc : ∀ k, c.getD k 0 = ((l.countP fun a => ι a == k : Nat) : Int)) (F : Nat → Int) :
    ∀ (n j : Nat), (∀ a ∈ l, ι a < j + n) →
      ((List.range' j n).map fun k => c.getD k 0 * F k).sum = (l.map fun a => if j ≤ ι a then F (ι a) else 0).sum := by
  intro n
  induction n with
  | zero =>
    intro j h
    rw [List.map_congr_left (g := fun _ => (0 : Int)) (fun a ha => if_neg (by have := h a ha; omega)), List.map_const',
      List.sum_replicate_int, Int.mul_zero]
    rfl
  | succ n ih =>
    intro j h
    rw [List.range'_succ, List.map_cons, List.sum_cons, ih (j + 1) (fun a ha => by have := h a ha; omega), hc j,
      sum_split_at l ι F j]

theorem sum_filter_nz (c : List Int) (X : Nat → Int) (l : List Nat) :
    ((l.filter fun k => decide (c.getD k 0 ≠ 0)).map fun k => c.getD k 0 * X k).sum =
      (l.map fun k => c.getD k 0 * X k).sum := by
  induction l with
  | nil => rfl
  | cons k l ih =>
    rw [List.filter_cons]
    split
    · rw [List.map_cons, List.sum_cons, ih, List.map_cons, List.sum_cons]
    · rename_i hz
      have : c.getD k 0 = 0 := Classical.byContradiction fun h => hz (decide_eq_true h)
      rw [ih, List.map_cons, List.sum_cons, this, Int.zero_mul, Int.zero_add]

theorem filter_takeWhile_range' (p q : Nat → Bool) (hpq : ∀ k i, p k = false → k ≤ i → q i = false) :
    ∀ (n j : Nat), ((List.range' j n).takeWhile p).filter q = (List.range' j n).filter q := by
  intro n
  induction n with
  | zero => intro j; rfl
  | succ n ih =>
    intro j
    rw [List.range'_succ, List.takeWhile_cons]
    cases hp : p j with
    | true => simp only [if_true, List.filter_cons, ih (j + 1)]
    | false =>
      symm
      simp only [Bool.false_eq_true, if_false, List.filter_nil, List.filter_eq_nil_iff, ← List.range'_succ,
        List.mem_range'_1]
      intro i hi
      rw [hpq j i hp hi.1]; simp

theorem find?_takeWhile_range' (p q : Nat → Bool) {t : Nat} (hq : q t = true) (n j : Nat) (hjt : j ≤ t) (htn : t < j + n)
    (hp : ∀ k, j ≤ k → k ≤ t → p k = true) (hnq : ∀ k, j ≤ k → k < t → q k = false) :
    ((List.range' j n).takeWhile p).find? q = some t := by
  -- the range up to `t`, which `takeWhile` keeps whole and in which `find?` stops at `t`, then the rest
  obtain ⟨d, rfl⟩ := Nat.exists_eq_add_of_le hjt
  obtain ⟨m, rfl⟩ := Nat.exists_eq_add_of_le (Nat.lt_of_add_lt_add_left htn)
  rw [← List.range'_append_1, List.takeWhile_append_of_pos fun k hk =>
      hp k (List.mem_range'_1.1 hk).1 (Nat.le_of_lt_succ (List.mem_range'_1.1 hk).2),
    List.find?_append, List.find?_range'_eq_some.2 ⟨hq, List.mem_range'_1.2 ⟨hjt, Nat.lt_succ_self _⟩,
      fun k h1 h2 => congrArg not (hnq k h1 h2)⟩]
  rfl

theorem filter_range'_last (q : Nat → Bool) {t : Nat} (hq : q t = true) (n j : Nat) (hjt : j ≤ t) (htn : t < j + n)
    (hz : ∀ i, t < i → i < j + n → q i = false) : ∃ l, (List.range' j n).filter q = l ++ [t] := by
  -- the range before `t`, then `t`, then the rest, where `q` fails
  obtain ⟨d, rfl⟩ := Nat.exists_eq_add_of_le hjt
  obtain ⟨m, rfl⟩ := Nat.exists_eq_add_of_le (Nat.lt_of_add_lt_add_left htn)
  have hrest : (List.range' (j + (d + 1)) m).filter q = [] := List.filter_eq_nil_iff.2 fun i hi =>
    Bool.eq_false_iff.1 (hz i (List.mem_range'_1.1 hi).1 (Nat.add_assoc .. ▸ (List.mem_range'_1.1 hi).2))
  exact ⟨(List.range' j d).filter q, by
    rw [← List.range'_append_1, List.range'_1_concat, List.filter_append, List.filter_append, hrest,
      List.filter_cons_of_pos hq, List.append_nil]; rfl⟩

end Ftdc.Hdr
