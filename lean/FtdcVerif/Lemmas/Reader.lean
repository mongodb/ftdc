import FtdcVerif.Model.Reader
import FtdcVerif.Lemmas.Bytes
/-! One round of the reader's loop `readAllAux` is framing followed by `stepDoc` (`readAllAux_succ`).  Hence on framed
documents followed by any tail the reader is the sequential fold `processDocs` over the documents and then its loop on
the tail (`readAll_append_framed`); the refinement, intact-prefix and cut-stream theorems of C04 and C09 are read off
that equation. -/
namespace Ftdc

theorem frame_append {db : Bytes} (h : WellFramed db) (rest : Bytes) :
    frame (db ++ rest) = .ok (some (db, rest)) := by
  obtain ⟨h4, hr, hno, ht⟩ := h.split rest
  have hne : db ++ rest ≠ [] := by
    have := h.1; cases db <;> simp at this ⊢
  simp only [frame, hne, if_false, h4, hr, hno, ht]

/-- the reader's state between documents; `failed` keeps the chunks delivered before the error -/
inductive RState where
  | running (md : Option BDoc) (acc : List Chunk)
  | failed (acc : List Chunk) (e : ReadErr)

def RState.chunks : RState → List Chunk
  | .running _ acc => acc
  | .failed acc _ => acc

def RState.result : RState → ReadResult
  | .running _ acc => ⟨acc, none⟩
  | .failed acc e => ⟨acc, some e⟩

/-- what one round of the reader's loop does with the document it has framed (`readAllAux_succ`) -/
def stepDoc (inflate : Inflate) (s : RState) (db : Bytes) : RState :=
  match s with
  | .failed acc e => .failed acc e
  | .running md acc =>
    match parseDoc db with
    | none => .failed acc .frame
    | some doc =>
      match processDoc inflate doc md with
      | .error e => .failed acc e
      | .ok (md', none) => .running md' acc
      | .ok (md', some c) => .running md' (acc ++ [c])

def processDocs (inflate : Inflate) (s : RState) (dbs : List Bytes) : RState :=
  dbs.foldl (stepDoc inflate) s

theorem processDocs_failed (inflate : Inflate) (acc : List Chunk) (e : ReadErr) (dbs : List Bytes) :
    processDocs inflate (.failed acc e) dbs = .failed acc e := by
  induction dbs with
  | nil => rfl
  | cons db rest ih => simpa [processDocs, stepDoc] using ih

theorem readAllAux_succ (inflate : Inflate) (fuel : Nat) (bs : Bytes) (md : Option BDoc) (acc : List Chunk) :
    readAllAux inflate (fuel + 1) bs md acc =
      match frame bs with
      | .error e => ⟨acc, some e⟩
      | .ok none => ⟨acc, none⟩
      | .ok (some (db, rest)) =>
        match stepDoc inflate (.running md acc) db with
        | .running md' acc' => readAllAux inflate fuel rest md' acc'
        | .failed acc' e => ⟨acc', some e⟩ := by
  rw [readAllAux]
  rcases frame bs with e | _ | ⟨db, rest⟩
  · rfl
  · rfl
  · simp only [stepDoc]
    cases parseDoc db with
    | none => rfl
    | some doc =>
      simp only
      rcases processDoc inflate doc md with e | ⟨md', _ | c⟩ <;> rfl

theorem stepDoc_chunks_prefix (inflate : Inflate) (s : RState) (db : Bytes) :
    s.chunks <+: (stepDoc inflate s db).chunks := by
  fun_cases stepDoc inflate s db <;> simp [RState.chunks]

theorem processDocs_append (inflate : Inflate) (s : RState) (a b : List Bytes) :
    processDocs inflate s (a ++ b) = processDocs inflate (processDocs inflate s a) b := by
  simp [processDocs, List.foldl_append]

theorem readAllAux_chunks_prefix (inflate : Inflate) (fuel : Nat) (bs : Bytes) (md : Option BDoc)
    (acc : List Chunk) : acc <+: (readAllAux inflate fuel bs md acc).chunks := by
  fun_induction readAllAux inflate fuel bs md acc
  -- the two arms that go round again, the second with one more chunk
  case case6 ih => exact ih
  case case7 ih => exact (List.prefix_append ..).trans ih
  all_goals exact List.prefix_refl _

theorem readAllAux_framed (inflate : Inflate) (dbs : List Bytes) (fuel : Nat) (md : Option BDoc) (acc : List Chunk)
    (tail : Bytes) (hw : ∀ db ∈ dbs, WellFramed db) :
    readAllAux inflate (dbs.length + fuel) (dbs.flatten ++ tail) md acc =
      match processDocs inflate (.running md acc) dbs with
      | .running md' acc' => readAllAux inflate fuel tail md' acc'
      | .failed acc' e => ⟨acc', some e⟩ := by
  induction dbs generalizing md acc with
  | nil => simp [processDocs]
  | cons db rest ih =>
    obtain ⟨hdb, hw⟩ := List.forall_mem_cons.1 hw
    rw [List.length_cons, Nat.add_right_comm, List.flatten_cons, List.append_assoc, readAllAux_succ, frame_append hdb]
    simp only [processDocs, List.foldl_cons]
    cases stepDoc inflate (.running md acc) db with
    | running md' acc' => exact ih md' acc' hw
    | failed acc' e => rw [← processDocs, processDocs_failed]

theorem flatten_length_ge (dbs : List Bytes) (h : ∀ db ∈ dbs, WellFramed db) :
    dbs.length ≤ dbs.flatten.length := by
  induction dbs with
  | nil => simp
  | cons db rest ih =>
    obtain ⟨hdb, h⟩ := List.forall_mem_cons.1 h
    have := hdb.1
    have := ih h
    simp only [List.length_cons, List.flatten_cons, List.length_append]; omega

/-- The fuel left is written `… + 1` because the users unfold `readAllAux` on the tail by exactly one round. -/
theorem readAll_append_framed (inflate : Inflate) (dbs : List Bytes) (tail : Bytes) (h : ∀ db ∈ dbs, WellFramed db) :
    readAll inflate (dbs.flatten ++ tail) =
      match processDocs inflate (.running none []) dbs with
      | .running md acc => readAllAux inflate (dbs.flatten.length - dbs.length + tail.length + 1) tail md acc
      | .failed acc e => ⟨acc, some e⟩ := by
  have hl := flatten_length_ge dbs h
  have e : (dbs.flatten ++ tail).length + 1 = dbs.length + (dbs.flatten.length - dbs.length + tail.length + 1) := by
    rw [List.length_append, ← Nat.add_assoc, ← Nat.add_assoc, Nat.add_sub_cancel' hl]
  rw [readAll, e, readAllAux_framed inflate dbs _ none [] tail h]

theorem readAll_framed (inflate : Inflate) (dbs : List Bytes) (h : ∀ db ∈ dbs, WellFramed db) :
    readAll inflate dbs.flatten = (processDocs inflate (.running none []) dbs).result := by
  have := readAll_append_framed inflate dbs [] h
  rw [List.append_nil] at this
  rw [this]
  cases processDocs inflate (.running none []) dbs <;> simp [RState.result, readAllAux, frame]

def Incomplete (cut : Bytes) : Prop :=
  cut ≠ [] ∧ (cut.length < 4 ∨ rdLe (cut.take 4) < 5 ∨ rdLe (cut.take 4) ≥ 2 ^ 31 ∨ cut.length < rdLe (cut.take 4))

theorem frame_incomplete {cut : Bytes} (h : Incomplete cut) : frame cut = .error .frame := by
  obtain ⟨hne, hc⟩ := h
  rw [frame, if_neg hne, takeN]
  by_cases h4 : cut.length < 4
  · rw [if_pos h4]
  · by_cases hr : rdLe (cut.take 4) < 5 ∨ rdLe (cut.take 4) ≥ 2 ^ 31
    · simp only [if_neg h4, if_pos hr]
    · -- the size word is there and in range: it asks for more bytes than there are
      have hl : cut.length < rdLe (cut.take 4) := by omega
      simp only [if_neg h4, if_neg hr, takeN, if_pos hl]

theorem take_incomplete {db : Bytes} (h : WellFramed db) (k : Nat) (h0 : 0 < k) (hk : k < db.length) :
    Incomplete (db.take k) := by
  obtain ⟨h5, h31, hsz⟩ := h
  have hlen : (db.take k).length = k := List.length_take_of_le (Nat.le_of_lt hk)
  refine ⟨List.ne_nil_of_length_pos (hlen.symm ▸ h0), ?_⟩
  by_cases h4 : k < 4
  · exact .inl (hlen.symm ▸ h4)
  · -- the size word is intact and asks for more than the `k` bytes there are
    have : (db.take k).take 4 = db.take 4 := by rw [List.take_take, Nat.min_eq_left (Nat.not_lt.1 h4)]
    exact .inr (.inr (.inr (by rwa [this, hsz, hlen])))

/-- `some d` iff `db` parses to `d` with `type` numerically 0; an `Option`, not a test, since `latestMeta` uses
`filterMap`.  Lemmas: Props/C11.lean. -/
def isMetaDoc (db : Bytes) : Option BDoc :=
  match parseDoc db with
  | some d => if isNum 0 (lookupLast keyType d) then some d else none
  | none => none

def latestMeta (dbs : List Bytes) : Option BDoc := (dbs.filterMap isMetaDoc).getLast?

/-- (`FileE2E.processDoc_meta` is another theorem: `processDoc` on a metadata document as the collectors write it.) -/
theorem processDoc_meta (inflate : Inflate) (doc : BDoc) (md md' : Option BDoc) (oc : Option Chunk)
    (h : processDoc inflate doc md = .ok (md', oc)) :
    (md' = if isNum 0 (lookupLast keyType doc) then some doc else md) ∧
    (∀ c, oc = some c → c.metadata = md ∧ ¬ isNum 0 (lookupLast keyType doc) = true) := by
  revert h
  fun_cases processDoc inflate doc md <;> intro h <;> cases h <;> simp +zetaDelta [*]

end Ftdc
