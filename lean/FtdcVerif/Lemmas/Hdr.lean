import FtdcVerif.Model.Hdr
import FtdcVerif.Lemmas.HdrCounts
/-!
# The HDR histogram: bit length, configuration, index arithmetic, counting (C12, C13)

`bitLen` is the mathematical bit length `blen` (every stage of the cascade keeps `n + blen x`), so the bucket index is
the number of bits `v` has beyond those of the mask (`bucket_eq`) and the index facts hold for every `v < 2^64`.  `WF` is what `New`
establishes about a configuration (`mkCfg_wf`).  `RecordValues` is one `modify` guarded by `accepts`, which looks at the
configuration only (`recordValues_eq`); so recording changes counts and total and nothing else (`recordAll_eq_cnts`), and
what holds of `New`'s configuration holds of every histogram reachable from it.
-/
namespace Ftdc.Hdr

def blen (x : Nat) : Nat := if x = 0 then 0 else Nat.log2 x + 1

theorem blen_le_iff {x k : Nat} : blen x ≤ k ↔ x < 2 ^ k := by
  unfold blen; split
  · subst_vars; simp [Nat.two_pow_pos]
  · exact Nat.log2_lt ‹_›

theorem lt_blen_iff {x k : Nat} : k < blen x ↔ 2 ^ k ≤ x := by
  rw [← Nat.not_le, blen_le_iff, Nat.not_lt]

theorem lt_two_pow_blen (x : Nat) : x < 2 ^ blen x := blen_le_iff.1 (Nat.le_refl _)

theorem blen_mono {a b : Nat} (hab : a ≤ b) : blen a ≤ blen b :=
  blen_le_iff.2 (Nat.lt_of_le_of_lt hab (lt_two_pow_blen b))

theorem blen_or (a b : Nat) : blen (a ||| b) = max (blen a) (blen b) := by
  apply Nat.le_antisymm
  · exact blen_le_iff.2
      (Nat.or_lt_two_pow (blen_le_iff.1 (Nat.le_max_left _ _)) (blen_le_iff.1 (Nat.le_max_right _ _)))
  · exact Nat.max_le.2 ⟨blen_mono Nat.left_le_or, blen_mono Nat.right_le_or⟩

theorem blen_shiftRight (x k : Nat) : blen (x >>> k) = blen x - k := by
  have key : ∀ n, blen (x >>> k) ≤ n ↔ blen x - k ≤ n := fun n => by
    rw [blen_le_iff, Nat.shiftRight_eq_div_pow, Nat.div_lt_iff_lt_mul (Nat.two_pow_pos k), ← Nat.pow_add,
      ← blen_le_iff, Nat.sub_le_iff_le_add]
  exact Nat.le_antisymm ((key _).2 (Nat.le_refl _)) ((key _).1 (Nat.le_refl _))

/-- one stage of the cascade, `if x ≥ 2^k then (x >>> (k+1), n + (k+1)) else (x, n)`, keeps `n + blen x`
and leaves at most `k` bits of an `x` of at most `2k + 1` -/
theorem stage (k x n : Nat) (hx : blen x ≤ 2 * k + 1) :
    (if x ≥ 2 ^ k then n + (k + 1) else n) + blen (if x ≥ 2 ^ k then x >>> (k + 1) else x) = n + blen x ∧
    blen (if x ≥ 2 ^ k then x >>> (k + 1) else x) ≤ k := by
  split
  · rename_i h
    rw [blen_shiftRight]
    exact ⟨by rw [Nat.add_assoc, Nat.add_sub_cancel' (lt_blen_iff.2 h)], Nat.sub_le_of_le_add (by omega)⟩
  · rename_i h
    exact ⟨rfl, blen_le_iff.2 (Nat.lt_of_not_le h)⟩

theorem bitLenTail_blen (y n : Nat) (hy : blen y ≤ 15) : bitLenTail y n = n + blen y := by
  unfold bitLenTail
  extract_lets x1 n1 x2 n2 x3 n3
  have s1 : n1 + blen x1 = n + blen y ∧ blen x1 ≤ 7 := stage 7 y n hy
  have s2 : n2 + blen x2 = n1 + blen x1 ∧ blen x2 ≤ 3 := stage 3 x1 n1 s1.2
  have s3 : n3 + blen x3 = n2 + blen x2 ∧ blen x3 ≤ 1 := stage 1 x2 n2 s2.2
  -- the last stage leaves no bit; its first summand is spelled as in `bitLenTail` (`0x1` for `2 ^ 0`)
  have s4 : (if x3 ≥ 0x1 then n3 + 1 else n3) + _ = _ ∧ _ ≤ 0 := stage 0 x3 n3 s3.2
  omega

theorem bitLenLoop_blen (fuel x n : Nat) (hx : blen x ≤ 15 + 16 * fuel) :
    (bitLenLoop fuel x n).2 + blen (bitLenLoop fuel x n).1 = n + blen x ∧ blen (bitLenLoop fuel x n).1 ≤ 15 := by
  fun_induction bitLenLoop fuel x n with
  | case1 x n => exact ⟨rfl, hx⟩
  | case2 f x n h ih =>
    have hb : 16 ≤ blen x := (lt_blen_iff (k := 15)).2 h
    have := ih (by rw [blen_shiftRight]; exact Nat.sub_le_of_le_add (by omega))
    rwa [blen_shiftRight, Nat.add_assoc, Nat.add_sub_cancel' hb] at this
  | case3 f x n h => exact ⟨rfl, (blen_le_iff (k := 15)).2 (by omega)⟩

theorem bitLen_eq_blen (x : Nat) (hx : x < 2 ^ 64) : bitLen x = blen x := by
  have hb := blen_le_iff.2 hx
  obtain ⟨e, h15⟩ := bitLenLoop_blen 64 x 0 (by omega)
  unfold bitLen
  rw [bitLenTail_blen _ _ h15, e, Nat.zero_add]

/-! ### the configuration `New` establishes -/

/-- what `New` establishes about a configuration (`mkCfg_wf`).  `covers`: the sizing loop ran until the capacity of the
array, `2^(halfMag + unitMag + bucketCount)`, exceeded `highest`; `bits`: that capacity is at most `2^63`, so that every
value with an index, the mask and every shifted sub-bucket index fit an `int64` (`mask_lt`, HdrRank's `cap_le`);
`precision` is what bounds the width of a range by `v·10^-sigfigs` (`size_bound`). -/
structure WF (h : Hist) : Prop where
  subCount_eq : h.subCount = 2 ^ (h.halfMag + 1)
  halfCount_eq : h.halfCount = 2 ^ h.halfMag
  mask_eq : h.mask = (2 ^ (h.halfMag + 1) - 1) * 2 ^ h.unitMag
  countsLen_eq : h.countsLen = (h.bucketCount + 1) * 2 ^ h.halfMag
  bucket_pos : 1 ≤ h.bucketCount
  covers : h.highest < 2 ^ (h.halfMag + h.unitMag + h.bucketCount)
  bits : h.halfMag + h.unitMag + h.bucketCount ≤ 63
  precision : 10 ^ h.sigfigs ≤ 2 ^ h.halfMag

/-- the last conjunct: the last round ran because the bound before it was still `≤ mx`; it is what yields `WF.bits` -/
theorem bucketsLoop_spec : ∀ (fuel smallest mx n : Nat), 1 ≤ smallest → mx < smallest * 2 ^ fuel →
    ∃ j, bucketsLoop fuel smallest mx n = n + j ∧ mx < smallest * 2 ^ j ∧
      (j = 0 ∨ smallest * 2 ^ (j - 1) ≤ mx) := by
  intro fuel s mx n
  fun_induction bucketsLoop fuel s mx n with
  | case1 s mx n => intro _ h; exact ⟨0, rfl, h, Or.inl rfl⟩
  | case2 f s mx n hle ih =>
    intro hs h
    rw [Nat.shiftLeft_eq, Nat.pow_one] at ih ⊢
    obtain ⟨j, he, hlt, hge⟩ := ih (by omega) (by rw [Nat.mul_assoc, ← Nat.pow_succ']; exact h)
    refine ⟨j + 1, by rw [he, Nat.add_right_comm]; rfl, by rw [Nat.pow_succ', ← Nat.mul_assoc]; exact hlt, Or.inr ?_⟩
    rcases hge with rfl | hge
    · simpa using hle
    · cases j with
      | zero => simpa using hle
      | succ j => rw [Nat.add_sub_cancel] at hge ⊢; rw [Nat.pow_succ', ← Nat.mul_assoc]; exact hge
  | case3 f s mx n hle => intro _ _; exact ⟨0, rfl, by simpa using Nat.lt_of_not_ge hle, Or.inl rfl⟩

theorem subMag_cases : ∀ s, s ≤ 5 → 1 ≤ s → 1 ≤ subMag s ∧ subMag s ≤ 18 ∧ 10 ^ s ≤ 2 ^ (subMag s - 1) := by
  -- the largest is `subMag 5 = ⌈log₂ (2·10^5)⌉ = 18`
  decide

/-- the configurations the theorems quantify over.  `sigfigs` in 1..5 is `New`'s own check (hdr.go:46, it panics
otherwise).  The other two bounds are what `mkCfg_wf` needs for `WF.bits`: `2^62` is sharp (from there on the `int64`
register of `New`'s sizing loop wraps and `New` does not return: F22 in Props/C12), `2^40` is generous (unit magnitude
plus at most 18 has to stay within 63). -/
structure Valid (minV : Int) (maxV sigfigs : Nat) : Prop where
  s1 : 1 ≤ sigfigs
  s5 : sigfigs ≤ 5
  minLt : minV < 2 ^ 40
  maxLt : maxV < 2 ^ 62

theorem Valid.lt63 {minV : Int} {maxV s : Nat} (hv : Valid minV maxV s) {v : Nat} (hle : v ≤ maxV) : v < 2 ^ 63 :=
  Nat.lt_of_le_of_lt hle (Nat.lt_trans hv.maxLt (by decide))

theorem mkCfg_wf {minV : Int} {maxV s : Nat} (hv : Valid minV maxV s) : WF (mkCfg minV maxV s) := by
  obtain ⟨hm1, hm18, hprec⟩ := subMag_cases s hv.s5 hv.s1
  obtain ⟨M, hM⟩ := Nat.exists_eq_add_one_of_ne_zero (Nat.ne_of_gt hm1)
  have hu : (if minV ≤ 0 then 0 else Nat.log2 minV.toNat) ≤ 40 := by
    split
    · exact Nat.zero_le _
    · have : minV.toNat ≠ 0 ∧ minV.toNat < 2 ^ 40 := by have := hv.minLt; omega
      exact Nat.le_of_lt ((Nat.log2_lt this.1).2 this.2)
  have h2 : 2 ^ (M + 1) / 2 = 2 ^ M := by rw [Nat.pow_succ, Nat.mul_div_cancel _ Nat.two_pos]
  unfold mkCfg
  simp only [hM, Nat.not_lt.2 (Nat.le_add_left 1 M), if_false, Nat.add_sub_cancel, Nat.shiftLeft_eq, h2] at hprec ⊢
  generalize (if minV ≤ 0 then 0 else Nat.log2 minV.toNat) = u at hu ⊢
  have hsm : 1 ≤ 2 ^ (M + 1) * 2 ^ u := Nat.mul_pos (Nat.two_pow_pos _) (Nat.two_pow_pos _)
  obtain ⟨j, hj, hlt, hge⟩ := bucketsLoop_spec 64 _ maxV 1 hsm (by
    calc maxV < 2 ^ 62 := hv.maxLt
      _ ≤ 1 * 2 ^ 64 := by decide
      _ ≤ _ := Nat.mul_le_mul_right _ hsm)
  rw [hj]
  rw [← Nat.pow_add, ← Nat.pow_add] at hlt hge
  -- `covers` is the loop's exit condition `hlt`; `bits`: the round before the exit had `2^(M+1+u+(j-1)) ≤ maxV < 2^62` (`hge`)
  refine ⟨rfl, rfl, rfl, rfl, Nat.le_add_right 1 j, ?_, ?_, hprec⟩
  · show maxV < 2 ^ (M + u + (1 + j))
    rwa [Nat.add_add_add_comm, ← Nat.add_assoc]
  · show M + u + (1 + j) ≤ 63
    rcases hge with h0 | hge
    · omega
    · have := (Nat.pow_lt_pow_iff_right (a := 2) (by decide)).1 (Nat.lt_of_le_of_lt hge hv.maxLt)
      omega

theorem new_cfg (minV : Int) (maxV s : Nat) :
    (new minV maxV s) = { mkCfg minV maxV s with counts := List.replicate (mkCfg minV maxV s).countsLen 0 } := rfl

theorem wf_with {h : Hist} (wf : WF h) (c : List Int) (t : Int) : WF { h with counts := c, total := t } :=
  { wf with }

theorem new_wf {minV : Int} {maxV s : Nat} (hv : Valid minV maxV s) : WF (new minV maxV s) := by
  rw [new_cfg]; exact wf_with (mkCfg_wf hv) _ _

/-- `New` gives `halfMag ≤ 17` (`subMag_cases`); 20 is what `CodeTie.countsIndex_tie` asks for. -/
theorem new_halfMag_le {minV : Int} {maxV s : Nat} (hv : Valid minV maxV s) : (new minV maxV s).halfMag ≤ 20 := by
  obtain ⟨h1, h18, _⟩ := subMag_cases s hv.s5 hv.s1
  show (if subMag s < 1 then 1 else subMag s) - 1 ≤ 20
  rw [if_neg (Nat.not_lt.2 h1)]
  omega

/-! ### index arithmetic under `WF` -/

section idx
variable {h : Hist} (wf : WF h)
include wf

theorem blen_mask : blen h.mask = h.halfMag + 1 + h.unitMag := by
  have hlt : (2 ^ (h.halfMag + 1) - 1) * 2 ^ h.unitMag < 2 ^ (h.halfMag + 1 + h.unitMag) := by
    rw [Nat.pow_add 2 (h.halfMag + 1)]
    exact Nat.mul_lt_mul_of_pos_right (Nat.sub_one_lt (Nat.ne_of_gt (Nat.two_pow_pos _))) (Nat.two_pow_pos _)
  have hge : 2 ^ (h.halfMag + h.unitMag) ≤ (2 ^ (h.halfMag + 1) - 1) * 2 ^ h.unitMag := by
    rw [Nat.pow_add 2 h.halfMag]
    exact Nat.mul_le_mul_right _ (Nat.le_sub_one_of_lt (Nat.pow_lt_pow_right (by decide) (Nat.lt_succ_self _)))
  rw [wf.mask_eq]
  exact Nat.le_antisymm (blen_le_iff.2 hlt) (by rw [Nat.add_right_comm]; exact lt_blen_iff.2 hge)

theorem mask_lt : h.mask < 2 ^ 63 :=
  blen_le_iff.1 (by rw [blen_mask wf]; have := wf.bits; have := wf.bucket_pos; omega)

theorem halfCount_lt : h.halfCount < h.subCount := by
  rw [wf.halfCount_eq, wf.subCount_eq]
  exact Nat.pow_lt_pow_right (by decide) (Nat.lt_succ_self _)

theorem bucket_eq {v : Nat} (hv : v < 2 ^ 64) : getBucketIndex h v = blen v - (h.halfMag + 1 + h.unitMag) := by
  have hmax : ∀ M, max (blen v) M - M = blen v - M := fun M => by
    rw [← Nat.sub_max_sub_right, Nat.sub_self, Nat.max_zero]
  unfold getBucketIndex
  rw [bitLen_eq_blen _ (Nat.or_lt_two_pow hv (Nat.lt_trans (mask_lt wf) (by omega))), blen_or, blen_mask wf,
    Nat.sub_sub, Nat.add_comm h.unitMag, hmax]

/-- bucket 0 holds the values of at most `halfMag + 1 + unitMag` bits, bucket `b ≥ 1` those of exactly
`b` bits more -/
theorem bucket_iff {v b : Nat} (hv : v < 2 ^ 64) :
    getBucketIndex h v = b ↔
      blen v ≤ h.halfMag + 1 + (b + h.unitMag) ∧ (1 ≤ b → h.halfMag + (b + h.unitMag) < blen v) := by
  rw [bucket_eq wf hv]; omega

theorem subBucket_lt {v : Nat} (hv : v < 2 ^ 64) :
    getSubBucketIdx h v (getBucketIndex h v) < 2 ^ (h.halfMag + 1) := by
  unfold getSubBucketIdx
  rw [← blen_le_iff, blen_shiftRight]
  exact Nat.sub_le_of_le_add ((bucket_iff wf hv).1 rfl).1

theorem subBucket_ge {v : Nat} (hv : v < 2 ^ 64) (hb : 1 ≤ getBucketIndex h v) :
    2 ^ h.halfMag ≤ getSubBucketIdx h v (getBucketIndex h v) := by
  unfold getSubBucketIdx
  rw [← lt_blen_iff, blen_shiftRight]
  exact Nat.lt_sub_of_add_lt (((bucket_iff wf hv).1 rfl).2 hb)

theorem bucket_lt_iff {v : Nat} (hv : v < 2 ^ 64) :
    getBucketIndex h v < h.bucketCount ↔ v < 2 ^ (h.halfMag + h.unitMag + h.bucketCount) := by
  have hbp := wf.bucket_pos
  rw [← blen_le_iff, bucket_eq wf hv]
  omega

omit wf in
/-- the index `b * H + s` orders the positions by bucket first: sub-bucket indexes stay below `2H`, and from bucket 1 on
they start at `H` -/
theorem index_lt_of_bucket_lt {H b s b' s' : Nat} (hb : b < b') (hs : s < H * 2) (hup : 1 ≤ b' → H ≤ s') :
    b * H + s < b' * H + s' :=
  calc b * H + s < b * H + H * 2 := Nat.add_lt_add_left hs _
    _ = (b + 1) * H + H := by rw [Nat.succ_mul, Nat.mul_two, Nat.add_assoc]
    _ ≤ b' * H + s' := Nat.add_le_add (Nat.mul_le_mul_right H hb) (hup (Nat.zero_lt_of_lt hb))

omit wf in
theorem pos_index_lt_iff {H b s bc : Nat} (hs : s < H * 2) (hup : 1 ≤ b → H ≤ s) (hbp : 1 ≤ bc) :
    b * H + s < (bc + 1) * H ↔ b < bc := by
  rw [Nat.succ_mul]
  constructor
  · intro hlt
    exact Nat.lt_of_not_le fun hn =>
      Nat.not_le.2 hlt (Nat.add_le_add (Nat.mul_le_mul_right H hn) (hup (Nat.le_trans hbp hn)))
  · intro hb
    exact index_lt_of_bucket_lt hb hs fun _ => Nat.le_refl H

theorem index_lt_iff {v : Nat} (hv : v < 2 ^ 64) :
    getBucketIndex h v * 2 ^ h.halfMag + getSubBucketIdx h v (getBucketIndex h v) < h.countsLen ↔
      v < 2 ^ (h.halfMag + h.unitMag + h.bucketCount) := by
  rw [← bucket_lt_iff wf hv, wf.countsLen_eq]
  exact pos_index_lt_iff (by rw [← Nat.pow_succ]; exact subBucket_lt wf hv) (subBucket_ge wf hv) wf.bucket_pos

theorem countsIndex_eq (b s : Nat) : countsIndex h b s = ((b * 2 ^ h.halfMag + s : Nat) : Int) := by
  unfold countsIndex
  simp only [Nat.shiftLeft_eq, wf.halfCount_eq]
  rw [Nat.add_mul]
  omega

theorem countsIndexFor_eq {v : Nat} :
    countsIndexFor h v = ((getBucketIndex h v * 2 ^ h.halfMag + getSubBucketIdx h v (getBucketIndex h v) : Nat) : Int) :=
  countsIndex_eq wf _ _

theorem getCountAt_eq (b s : Nat) : getCountAt h b s = h.counts.getD (b * 2 ^ h.halfMag + s) 0 := by
  unfold getCountAt
  rw [countsIndex_eq wf, if_neg (Int.not_lt.2 (Int.natCast_nonneg _)), Int.toNat_natCast]

theorem highest_lt64 {v : Nat} (hv : v ≤ h.highest) : v < 2 ^ 64 :=
  Nat.lt_of_le_of_lt hv
    (Nat.lt_of_lt_of_le wf.covers (Nat.pow_le_pow_right (by omega) (by have := wf.bits; omega)))

/-- C12, clause 1 -/
theorem index_in_range {v : Nat} (hv : v ≤ h.highest) :
    0 ≤ countsIndexFor h v ∧ countsIndexFor h v < (h.countsLen : Int) := by
  rw [countsIndexFor_eq wf]
  exact ⟨Int.natCast_nonneg _,
    Int.ofNat_lt.2 ((index_lt_iff wf (highest_lt64 wf hv)).2 (Nat.lt_of_le_of_lt hv wf.covers))⟩

omit wf in
theorem sizeOfRange_pos (v : Nat) : 0 < sizeOfRange h v := by
  simp only [sizeOfRange, Nat.shiftLeft_eq, Nat.one_mul]
  exact Nat.two_pow_pos _

omit wf in
theorem highestEquiv_add_one (v : Nat) : highestEquiv h v + 1 = lowestEquiv h v + sizeOfRange h v := by
  unfold highestEquiv nextNonEquiv
  exact Nat.sub_add_cancel (Nat.add_pos_right _ (sizeOfRange_pos v))

theorem size_eq {v : Nat} (hv : v < 2 ^ 64) :
    sizeOfRange h v = 2 ^ (h.unitMag + getBucketIndex h v) := by
  unfold sizeOfRange
  have := subBucket_lt wf hv
  rw [← wf.subCount_eq] at this
  simp only [Nat.not_le.2 this, ite_false, Nat.shiftLeft_eq, Nat.one_mul]

theorem equiv_range {v : Nat} (hv : v < 2 ^ 64) : lowestEquiv h v ≤ v ∧ v ≤ highestEquiv h v := by
  have hl : lowestEquiv h v =
      v / 2 ^ (getBucketIndex h v + h.unitMag) * 2 ^ (getBucketIndex h v + h.unitMag) := by
    simp [lowestEquiv, valueFromIndex, getSubBucketIdx, Nat.shiftRight_eq_div_pow, Nat.shiftLeft_eq]
  constructor
  · rw [hl]; exact Nat.div_mul_le_self _ _
  · unfold highestEquiv nextNonEquiv
    rw [hl, size_eq wf hv, Nat.add_comm h.unitMag]
    exact Nat.le_sub_one_of_lt (Nat.lt_div_mul_add (Nat.two_pow_pos _))

theorem size_bound {v : Nat} (hv : v < 2 ^ 64) :
    sizeOfRange h v = 2 ^ h.unitMag ∨ sizeOfRange h v * 10 ^ h.sigfigs ≤ v := by
  rw [size_eq wf hv]
  rcases Nat.eq_zero_or_pos (getBucketIndex h v) with hb | hb
  · left; rw [hb]; rfl
  · right
    have h1 := lt_blen_iff.1 (((bucket_iff wf hv).1 rfl).2 hb)
    rw [Nat.pow_add, Nat.mul_comm, Nat.add_comm _ h.unitMag] at h1
    exact Nat.le_trans (Nat.mul_le_mul_left _ wf.precision) h1

/-- C12, clause 2 -/
theorem value_in_range {v : Nat} (hv : v ≤ h.highest) :
    lowestEquiv h v ≤ v ∧ v ≤ highestEquiv h v :=
  equiv_range wf (highest_lt64 wf hv)

/-- C12, clause 3 -/
theorem width_bound {v : Nat} (hv : v ≤ h.highest) :
    sizeOfRange h v = 2 ^ h.unitMag ∨ sizeOfRange h v * 10 ^ h.sigfigs ≤ v :=
  size_bound wf (highest_lt64 wf hv)

end idx

/-! ### counting: `RecordValues` is one `modify` guarded by `accepts` -/

/-- the invariant of recording: `RecordValues` keeps it whatever the sign of `n` (`recordValues_spec`); that no count is
negative is `NonNeg`, kept for `n ≥ 0` only -/
def Inv (h : Hist) : Prop := h.counts.length = h.countsLen ∧ h.counts.sum = h.total

/-- whether `RecordValue(v)` succeeds depends on the configuration only -/
def accepts (h : Hist) (v : Int) : Bool :=
  decide (0 ≤ v) && decide (0 ≤ countsIndexFor h v.toNat) && decide (countsIndexFor h v.toNat < (h.countsLen : Int))

/-- the counts index `RecordValues` computes for its `int64` argument.  The index map on naturals, where it is monotone,
is `idx` (Lemmas/HdrRank); under `WF` the two agree (`cix_eq_idx`). -/
def cix (h : Hist) (v : Int) : Nat := (countsIndexFor h v.toNat).toNat

theorem accepts_cix_lt {h : Hist} {v : Int} (ha : accepts h v = true) : cix h v < h.countsLen := by
  simp only [accepts, Bool.and_eq_true, decide_eq_true_eq] at ha
  exact (Int.toNat_lt ha.1.2).2 ha.2

theorem recordValues_eq (h : Hist) (v n : Int) :
    recordValues h v n =
      if accepts h v then
        some { h with counts := h.counts.modify (cix h v) (· + n), total := h.total + n }
      else none := by
  simp only [recordValues, accepts, listModify, cix, Bool.and_eq_true, decide_eq_true_eq]
  split
  · rw [if_neg (by omega)]
  · split
    · rw [if_neg (by omega)]
    · rw [if_pos (by omega)]

theorem recordValues_isSome (h : Hist) (v n : Int) : (recordValues h v n).isSome = accepts h v := by
  rw [recordValues_eq]; cases accepts h v <;> rfl

theorem recordAll_cons (h : Hist) (v : Int) (vs : List Int) :
    recordAll h (v :: vs) = recordAll ((recordValue h v).getD h) vs := rfl

theorem recordAll_cons_ok (h h' : Hist) (v : Int) (vs : List Int) (hr : recordValue h v = some h') :
    recordAll h (v :: vs) = recordAll h' vs := by
  rw [recordAll_cons, hr]; rfl

theorem recordAll_append (h : Hist) (vs ws : List Int) : recordAll (recordAll h vs) ws = recordAll h (vs ++ ws) := by
  unfold recordAll; rw [List.foldl_append]

theorem new_inv (minV : Int) (maxV s : Nat) : Inv (new minV maxV s) := by
  simp [Inv, new]; rfl

/-! ### recording leaves the configuration alone; histograms reachable from `New` -/

def SameCfg (a b : Hist) : Prop := { a with counts := [], total := 0 } = { b with counts := [], total := 0 }

theorem SameCfg.fields {a b : Hist} (h : SameCfg a b) :
    a.mask = b.mask ∧ a.unitMag = b.unitMag ∧ a.halfMag = b.halfMag ∧ a.halfCount = b.halfCount ∧
    a.countsLen = b.countsLen ∧ a.subCount = b.subCount ∧ a.bucketCount = b.bucketCount := by
  have e := fun f : Hist → Nat => congrArg f h
  exact ⟨e Hist.mask, e Hist.unitMag, e Hist.halfMag, e Hist.halfCount, e Hist.countsLen, e Hist.subCount,
    e Hist.bucketCount⟩

theorem accepts_congr {a b : Hist} (h : SameCfg a b) (v : Int) : accepts a v = accepts b v := by
  obtain ⟨h1, h2, h3, h4, h5, _, _⟩ := h.fields
  simp only [accepts, countsIndexFor, countsIndex, getBucketIndex, getSubBucketIdx, h1, h2, h3, h4, h5] <;> rfl

theorem recordValues_sameCfg {h h' : Hist} {v n : Int} (he : recordValues h v n = some h') : SameCfg h h' := by
  rw [recordValues_eq] at he
  split at he
  · injection he with he; subst he; rfl
  · contradiction

theorem recordValues_spec {h h' : Hist} {v n : Int} (he : recordValues h v n = some h') (inv : Inv h) :
    Inv h' ∧ h'.total = h.total + n ∧ SameCfg h h' := by
  have same := recordValues_sameCfg he
  rw [recordValues_eq] at he
  split at he
  · rename_i ha
    injection he with he; subst he
    refine ⟨⟨by simp [inv.1], ?_⟩, rfl, same⟩
    rw [sum_modify _ _ _ (by rw [inv.1]; exact accepts_cix_lt ha), inv.2]
  · contradiction

/-- the counts array after recording `vs`, starting from `c`: `addAll (accepts h) (cix h) (fun _ => 1) c vs` with `addAll`
unfolded, and used as that (`cnts_length`, `cnts_getD` in Lemmas/HdrRank) -/
def cnts (h : Hist) (c : List Int) (vs : List Int) : List Int :=
  vs.foldl (fun c v => if accepts h v then c.modify (cix h v) (· + 1) else c) c

theorem recordAll_eq (h : Hist) (vs : List Int) : ∀ (c : List Int) (t : Int),
    recordAll { h with counts := c, total := t } vs =
      { h with counts := cnts h c vs, total := t + ((vs.filter (accepts h)).length : Int) } := by
  induction vs with
  | nil => intro c t; simp [recordAll, cnts]
  | cons v vs ih =>
    intro c t
    rw [recordAll_cons, recordValue, recordValues_eq, show accepts { h with counts := c, total := t } v = accepts h v from rfl]
    simp only [cnts, List.foldl_cons, List.filter_cons]
    cases accepts h v
    · exact ih c t
    · refine (ih _ _).trans ?_
      simp only [cnts, if_true, List.length_cons]
      congr 1; push_cast; omega

theorem recordAll_eq_cnts (h : Hist) (vs : List Int) :
    recordAll h vs =
      { h with counts := cnts h h.counts vs, total := h.total + ((vs.filter (accepts h)).length : Int) } :=
  recordAll_eq h vs h.counts h.total

theorem recordAll_spec (vs : List Int) : ∀ (h : Hist), Inv h →
    Inv (recordAll h vs) ∧ SameCfg h (recordAll h vs) ∧
    (recordAll h vs).total = h.total + ((vs.filter (accepts h)).length : Int) := by
  intro h inv
  refine ⟨?_, by rw [recordAll_eq_cnts]; rfl, by rw [recordAll_eq_cnts]⟩
  exact List.foldlRecOn vs _ inv fun g hg v _ => by
    cases hr : recordValue g v with
    | none => exact hg
    | some g' => exact (recordValues_spec hr hg).1

theorem recordAll_wf {h : Hist} (wf : WF h) (vs : List Int) : WF (recordAll h vs) := by
  rw [recordAll_eq_cnts]; exact wf_with wf _ _

theorem highestEquiv_recordAll (h : Hist) (vs : List Int) (x : Nat) :
    highestEquiv (recordAll h vs) x = highestEquiv h x := by rw [recordAll_eq_cnts]; rfl

theorem lowestEquiv_recordAll (h : Hist) (vs : List Int) (x : Nat) :
    lowestEquiv (recordAll h vs) x = lowestEquiv h x := by rw [recordAll_eq_cnts]; rfl

theorem medianEquiv_recordAll (h : Hist) (vs : List Int) (x : Nat) :
    medianEquiv (recordAll h vs) x = medianEquiv h x := by rw [recordAll_eq_cnts]; rfl

theorem accepts_recordAll (h : Hist) (vs : List Int) (x : Int) :
    accepts (recordAll h vs) x = accepts h x := by rw [recordAll_eq_cnts]; rfl

/-- the two hypotheses every tie of Lemmas/CodeTie asks of a histogram, for all that are reachable from `New` -/
theorem reach_wf_halfMag {minV : Int} {maxV s : Nat} (hv : Valid minV maxV s) (vs : List Int) :
    WF (recordAll (new minV maxV s) vs) ∧ (recordAll (new minV maxV s) vs).halfMag ≤ 20 := by
  refine ⟨recordAll_wf (new_wf hv) vs, ?_⟩
  -- `simp only` also reduces the projection, which `exact` would otherwise look for by unfolding `new`
  simp only [recordAll_eq_cnts]; exact new_halfMag_le hv

theorem accepts_reach {minV : Int} {maxV s : Nat} (hv : Valid minV maxV s) (vs : List Int) (v : Nat) (hle : v ≤ maxV) :
    accepts (recordAll (new minV maxV s) vs) (v : Int) = true := by
  rw [accepts_recordAll]
  have := index_in_range (new_wf hv) (v := v) hle
  simp only [accepts, Bool.and_eq_true, decide_eq_true_eq]
  exact ⟨⟨by omega, this.1⟩, this.2⟩

/-! ### non-negative counts; `Export`/`Import` -/

/-- what `Import` relies on (it sums the positive counts), and what makes the rest of the array zero once the running
count has reached the total (`tail_zero`) -/
def NonNeg (h : Hist) : Prop := ∀ c ∈ h.counts, 0 ≤ c

theorem recordValues_nonneg {h h' : Hist} {v n : Int} (hn : 0 ≤ n) (he : recordValues h v n = some h')
    (hh : NonNeg h) : NonNeg h' := by
  rw [recordValues_eq] at he
  split at he
  · injection he with he; subst he; exact modify_nonneg _ _ _ hn hh
  · contradiction

theorem recordAll_nonneg (vs : List Int) (h : Hist) (hh : NonNeg h) : NonNeg (recordAll h vs) :=
  List.foldlRecOn vs _ hh fun g hg v _ => by
    cases hr : recordValue g v with
    | none => exact hg
    | some g' => exact recordValues_nonneg (by omega) hr hg

theorem import_export (minV : Int) (maxV s : Nat) (vs : List Int) :
    import_ (export_ (recordAll (new minV maxV s) vs)) = recordAll (new minV maxV s) vs := by
  obtain ⟨inv, _, _⟩ := recordAll_spec vs (new minV maxV s) (new_inv minV maxV s)
  have nn := recordAll_nonneg vs (new minV maxV s) (by intro c hc; simp [new] at hc; omega)
  rw [recordAll_eq_cnts] at inv nn ⊢
  -- the snapshot carries `New`'s arguments and the counts; `Import` recomputes the total from the counts
  show import_ { lowest := minV, highest := maxV, sigfigs := s, counts := cnts _ _ vs } = _
  unfold import_
  dsimp only
  rw [List.take_of_length_le (Nat.le_of_eq inv.1), sum_pos_eq_sum _ nn, inv.2]

end Ftdc.Hdr
