import FtdcVerif.Lemmas.HdrRank
/-!
# Min and Max of the HDR histogram

`Max` walks all positions and keeps the last non-empty one, `Min` stops at the first non-empty
one; with the monotone index map these are the positions of the largest and the smallest
recorded value.
-/
namespace Ftdc.Hdr

def maxStep (m : Nat) (p : IterPos) : Nat := if p.countAt ≠ 0 then p.highest else m

theorem foldl_maxStep (l : List IterPos) (m : Nat) :
    l.foldl maxStep m = (l.filter fun p => decide (p.countAt ≠ 0)).foldl (fun _ p => p.highest) m := by
  rw [List.foldl_filter]; congr 1; funext m p; simp [maxStep]

/-- folding `Max`'s step over the positions from index `j` on yields the representative of the
last non-empty index, or leaves the accumulator alone when there is none (the fuel hypothesis: see `merge_fold`) -/
theorem max_fold {g : Hist} (wf : WF g) (hlen : g.counts.length = g.countsLen)
    (hn : ∀ x ∈ g.counts, 0 ≤ x) (hsum : g.counts.sum = g.total) :
    ∀ (fuel b : Nat) (s : Int) (j : Nat) (m : Nat),
      St (2 ^ g.halfMag) b s j → g.countsLen + 1 ≤ fuel + j →
      ((∀ i, j ≤ i → g.counts.getD i 0 = 0) → (iterFrom fuel g b s (pre g.counts j)).foldl maxStep m = m) ∧
      (∀ t, j ≤ t → g.counts.getD t 0 ≠ 0 → (∀ i, t < i → g.counts.getD i 0 = 0) →
        ∃ b' s', ValidPos g b' s' ∧ b' * 2 ^ g.halfMag + s' = t ∧
          (iterFrom fuel g b s (pre g.counts j)).foldl maxStep m = highestEquiv g (valueFromIndex g b' s')) := by
  intro fuel b s j m st hf
  rw [foldl_maxStep, iterFrom_nz wf hn hsum st (Nat.le_of_succ_le hf)]
  refine ⟨fun hz => ?_, fun t hjt hnz hz => ?_⟩
  · rw [List.filter_eq_nil_iff.2 (fun i hi => by
      rw [decide_eq_false (not_not_intro (hz i (List.mem_range'_1.1 hi).1))]; exact Bool.false_ne_true)]
    rfl
  · -- past the end of the array every entry reads as zero
    have ht : t < g.countsLen := Nat.lt_of_not_le fun h =>
      hnz (tail_zero _ hn t (Int.le_of_eq (pre_all _ (hlen ▸ h)).symm) t (Nat.le_refl t))
    obtain ⟨vp, e⟩ := validPos_bOf_sOf wf ht
    have htn : t < j + (g.countsLen - j) := (Nat.sub_lt_iff_lt_add' hjt).1 (Nat.sub_lt_sub_right hjt ht)
    obtain ⟨l, el⟩ := filter_range'_last (fun k => decide (g.counts.getD k 0 ≠ 0)) (t := t) (decide_eq_true hnz)
      (g.countsLen - j) j hjt htn (fun i hi _ => decide_eq_false (not_not_intro (hz i hi)))
    exact ⟨_, _, vp, e, by rw [el, List.map_append, List.foldl_append]; rfl⟩

theorem Holds.maxV {g : Hist} {A : List Nat} (H : Holds g A) {x : Nat} (hx : x ∈ A) (hmax : ∀ a ∈ A, a ≤ x) :
    maxV g = highestEquiv g x := by
  have hxc := H.lt_cap x hx
  -- the last non-empty index is that of `x`, the index map being monotone
  obtain ⟨b, s, vp, e, hfold⟩ := (max_fold H.wf H.inv.1 H.nonneg H.inv.2 (g.countsLen + 2) 0 (-1) 0 0
    (st_start _) (by omega)).2 (idx g x) (Nat.zero_le _) ((H.nz_iff _).2 ⟨x, hx, rfl⟩)
    fun i hi => Classical.byContradiction fun h => by
      obtain ⟨a, ha, rfl⟩ := (H.nz_iff i).1 h
      exact Nat.not_le.2 (lt_of_idx_lt H.wf hxc hi) (hmax a ha)
  show highestEquiv g ((iter g).foldl maxStep 0) = _
  rw [iter_start, hfold, (repr_of_idx H.wf hxc vp e).2]
  obtain ⟨c, e⟩ := idx_highestEquiv H.wf hxc
  exact highestEquiv_of_idx H.wf c hxc e

theorem find_first_nz {h : Hist} (wf : WF h) (hpos : 0 < h.total) (t : Nat) (ht : t < h.countsLen)
    (hnz : h.counts.getD t 0 ≠ 0) (hz : ∀ k, k < t → h.counts.getD k 0 = 0) :
    ∀ (fuel b : Nat) (s : Int) (j : Nat), St (2 ^ h.halfMag) b s j → j ≤ t → t - j < fuel →
      ∃ p, (iterFrom fuel h b s (pre h.counts j)).find? (fun p => decide (p.countAt ≠ 0)) = some p ∧
        ∃ b' s', ValidPos h b' s' ∧ b' * 2 ^ h.halfMag + s' = t ∧
          p.highest = highestEquiv h (valueFromIndex h b' s') := by
  intro fuel b s j st hjt hf
  obtain ⟨vp, e⟩ := validPos_bOf_sOf wf ht
  refine ⟨posAt h t, ?_, _, _, vp, e, rfl⟩
  have htn : t < j + min fuel (h.countsLen - j) :=
    (Nat.sub_lt_iff_lt_add' hjt).1 (Nat.lt_min.2 ⟨hf, Nat.sub_lt_sub_right hjt ht⟩)
  rw [iterFrom_eq wf _ _ _ _ st, List.find?_map,
    find?_takeWhile_range' _ ((fun p : IterPos => decide (p.countAt ≠ 0)) ∘ posAt h) (t := t)
      (decide_eq_true hnz) _ j hjt htn
      (fun k _ h2 => decide_eq_true (by rw [pre_zero _ k fun i hi => hz i (Nat.lt_of_lt_of_le hi h2)]; exact hpos))
      (fun k _ h2 => decide_eq_false (not_not_intro (hz k h2)))]
  rfl

theorem Holds.minV {g : Hist} {A : List Nat} (H : Holds g A) {x : Nat} (hx : x ∈ A) (hmin : ∀ a ∈ A, x ≤ a) :
    minV g = lowestEquiv g x := by
  have hxc := H.lt_cap x hx
  have hix := H.idx_lt hx
  -- the first non-empty index is that of `x`
  obtain ⟨p, hfind, b, s, vp, e, hp⟩ := find_first_nz H.wf
    (by rw [H.total]; exact Int.ofNat_lt.2 (List.length_pos_of_mem hx)) (idx g x) hix ((H.nz_iff _).2 ⟨x, hx, rfl⟩)
    (fun k hk => Classical.byContradiction fun h => by
      obtain ⟨a, ha, rfl⟩ := (H.nz_iff k).1 h
      exact Nat.not_le.2 (lt_of_idx_lt H.wf (H.lt_cap a ha) hk) (hmin a ha))
    (g.countsLen + 2) 0 (-1) 0 (st_start _) (Nat.zero_le _) (by omega)
  unfold Hdr.minV
  rw [iter_start, hfind]
  show lowestEquiv g p.highest = _
  rw [hp, (repr_of_idx H.wf hxc vp e).2]
  -- `highestEquiv g x` has the index of `x`, so the same lowest equivalent value
  obtain ⟨c1, c2⟩ := idx_highestEquiv H.wf hxc
  exact (repr_of_idx H.wf c1 (validPos_of H.wf hxc) c2.symm).1.symm

end Ftdc.Hdr
