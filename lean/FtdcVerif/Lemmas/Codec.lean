import FtdcVerif.Model.Codec
/-! Round trips of the codec's layers, innermost first: a varint reads back, `undelta` inverts `deltas`, the zero-run
decoder may be stopped and resumed at any point of the stream (`rleDecAux_append`), every metric leaf survives
extraction and restoration bit for bit, and hence a document is restored from its own extracted values as its
projection (`restore_extract`). -/
namespace Ftdc

/-- (the delta table: `nd` deltas per metric) -/
theorem flatten_length_const {α : Type} (cols : List (List α)) (nd : Nat) (h : ∀ c ∈ cols, c.length = nd) :
    cols.flatten.length = cols.length * nd := by
  rw [List.length_flatten, List.map_eq_replicate_iff.2 h, List.sum_replicate_nat]

/-- The bound `2 * 128 ^ fuel`: seven bits from each of `fuel` bytes and one from the last. Ten bytes carry
64 = 7·9 + 1 bits, so the tenth may only be 0 or 1, which is the overflow test of Go's `binary.ReadUvarint`. -/
theorem readUvarintAux_put (x fuel acc s : Nat) (rest : Bytes) (hlt : x < 2 * 128 ^ fuel) :
    readUvarintAux (fuel + 1) acc s (putUvarint x ++ rest) = some (acc + x * 2 ^ s, rest) := by
  fun_induction putUvarint x generalizing fuel acc s with
  | case1 x hx =>
    have : ¬ (fuel = 0 ∧ x > 1) := by rintro ⟨rfl, hgt⟩; omega
    simp [readUvarintAux, hx, this]
  | case2 x hx ih =>
    cases fuel with
    | zero => omega
    | succ f =>
      rw [Nat.pow_succ, ← Nat.mul_assoc] at hlt
      have hq : x / 128 < 2 * 128 ^ f := (Nat.div_lt_iff_lt_mul (by decide)).2 hlt
      -- the byte `x % 128 + 128` is not below 128 and carries `x % 128`
      simp only [List.cons_append, readUvarintAux, Nat.not_lt.2 (Nat.le_add_left 128 _), ite_false,
        Nat.add_mod_right, Nat.mod_mod, ih f _ (s + 7) hq]
      -- acc + x % 128 * 2 ^ s + x / 128 * 2 ^ (s + 7) = acc + x * 2 ^ s
      have e : 2 ^ (s + 7) = 128 * 2 ^ s := by rw [Nat.pow_add, Nat.mul_comm]
      rw [e, ← Nat.mul_assoc, Nat.add_assoc, ← Nat.add_mul, Nat.mod_add_div']

theorem readUvarint_putUvarint (x : Nat) (hx : x < 2 ^ 64) (rest : Bytes) :
    readUvarint (putUvarint x ++ rest) = some (x, rest) := by
  unfold readUvarint
  rw [readUvarintAux_put x 9 0 0 rest (by omega)]
  simp

theorem encodeValue_read (d : I64) (rest : Bytes) :
    readUvarint (encodeValue d ++ rest) = some (d.toNat, rest) :=
  readUvarint_putUvarint d.toNat d.isLt rest

theorem putUvarint_bytesOk (x : Nat) : BytesOk (putUvarint x) := by
  fun_induction putUvarint x with
  | case1 x hx => intro b hb; simp at hb; omega
  | case2 x hx ih =>
    intro b hb
    rcases List.mem_cons.1 hb with rfl | hb
    · omega
    · exact ih b hb

theorem undelta_deltas (v : I64) (xs : List I64) : undelta v (deltas v xs) = v :: xs := by
  induction xs generalizing v with
  | nil => rfl
  | cons x xs ih =>
    simp only [deltas, undelta]
    rw [BitVec.add_comm, BitVec.sub_add_cancel, ih]

theorem deltas_length (v : I64) (xs : List I64) : (deltas v xs).length = xs.length := by
  induction xs generalizing v with
  | nil => rfl
  | cons x xs ih => simp [deltas, ih]

theorem undelta_length (v : I64) (ds : List I64) : (undelta v ds).length = ds.length + 1 := by
  induction ds generalizing v with
  | nil => rfl
  | cons d ds ih => simp [undelta, ih]

theorem undelta_zero (v : I64) (ds : List I64) : (undelta v ds).getD 0 0 = v := by
  cases ds <;> simp [undelta]

theorem undelta_succ (v : I64) (ds : List I64) (i : Nat) (h : i < ds.length) :
    (undelta v ds).getD (i + 1) 0 = (undelta v ds).getD i 0 + ds.getD i 0 := by
  induction ds generalizing v i with
  | nil => simp at h
  | cons d ds ih =>
    cases i with
    | zero =>
      simp only [undelta, List.getD_cons_succ, List.getD_cons_zero]
      rw [undelta_zero]
    | succ i =>
      simp only [undelta, List.getD_cons_succ]
      exact ih (v + d) i (by simpa using h)

theorem rleDecAux_zeros (k nz : Nat) (bs : Bytes) (h : k ≤ nz) :
    rleDecAux k nz bs = some (List.replicate k 0#64, nz - k, bs) := by
  induction k generalizing nz with
  | zero => rfl
  | succ k ih =>
    rw [rleDecAux, if_pos (Nat.ne_zero_of_lt h), ih (nz - 1) (Nat.le_sub_one_of_lt h), List.replicate_succ, Nat.sub_sub,
      Nat.add_comm 1]

theorem rleDecAux_append (a b nz : Nat) (bs : Bytes) :
    rleDecAux (a + b) nz bs =
      (rleDecAux a nz bs).bind fun x =>
        (rleDecAux b x.2.1 x.2.2).map fun y => (x.1 ++ y.1, y.2.1, y.2.2) := by
  -- induction on the first count; `simp` leaves `bind`/`map` reassociation in the three arms that read a delta and go on
  fun_induction rleDecAux a nz bs <;> simp [Nat.succ_add, rleDecAux, *]
  all_goals
    generalize rleDecAux b _ _ = o
    cases o <;> rfl

theorem rleDecAux_length {n nz : Nat} {bs : Bytes} {ds : List I64} {nz' : Nat} {r : Bytes}
    (h : rleDecAux n nz bs = some (ds, nz', r)) : ds.length = n := by
  fun_induction rleDecAux n nz bs generalizing ds nz' r <;> cases h
  · rfl
  all_goals
    rename_i ih
    exact congrArg (· + 1) (ih (by assumption))

/-! The cell that extraction makes of a datetime, an int32, a timestamp word or a bool restores to the leaf. -/

/-- the range Go can express in nanoseconds: |ms| ≤ MaxInt64 / 10^6 -/
def InNanoRange (ms : I64) : Prop := -9223372036854 ≤ ms.toInt ∧ ms.toInt ≤ 9223372036854

theorem normDT_inRange (ms : I64) (h : InNanoRange ms) : normDT ms = ms := by
  obtain ⟨h1, h2⟩ := h
  apply BitVec.eq_of_toInt_eq
  unfold normDT
  rw [BitVec.toInt_sdiv, BitVec.toInt_mul]
  have hc : (1000000#64 : BitVec 64).toInt = 1000000 := by decide
  rw [hc]
  have hm : (ms.toInt * 1000000).bmod (2 ^ 64) = ms.toInt * 1000000 := by
    apply Int.bmod_eq_of_le <;> omega
  rw [hm, Int.mul_tdiv_cancel _ (by omega)]
  apply Int.bmod_eq_of_le <;> omega

theorem signExt_truncate (v : BitVec 32) : (signExt32 v).truncate 32 = v := by
  unfold signExt32
  ext i hi
  simp [BitVec.getLsbD_signExtend, hi]
  omega

theorem zeroExt_truncate (v : BitVec 32) : (v.zeroExtend 64).truncate 32 = v :=
  (BitVec.setWidth_setWidth_of_le v (by decide)).trans (BitVec.setWidth_eq v)

theorem bool_restore (b : Bool) : ((if b then 1#64 else 0#64) != 0#64) = b := by
  cases b <;> decide

mutual
/-- all that restoration asks of a document -/
def DatesOkVal : BVal → Prop
  | .datetime ms => InNanoRange ms
  | .doc d => DatesOk d
  | .arr d => DatesOk d
  | _ => True
def DatesOk : BDoc → Prop
  | .nil => True
  | .cons _ v r => DatesOkVal v ∧ DatesOk r
end

/-- one sample as the collectors keep it: the `int64` cells of the document in metric order (the `values` of Go's
`extractMetricsFromDocument`, each as the integer that is delta-encoded, without its type) -/
def vals (d : BDoc) : Row := (extractDoc d).map (·.1)
/-- the cells one value contributes to `vals` -/
def valsV (v : BVal) : Row := (extractVal v).map (·.1)

theorem vals_cons (k : Bytes) (v : BVal) (r : BDoc) : vals (.cons k v r) = valsV v ++ vals r := by
  simp [vals, valsV, extractDoc]

mutual
theorem restoreVal_extract : (v : BVal) → DatesOkVal v → ∀ (pre post : Row),
    restoreVal (pre ++ valsV v ++ post) pre.length v = (projVal v, pre.length + (valsV v).length)
  | .doc d, h, pre, post => by
    simp only [restoreVal, projVal, show valsV (.doc d) = vals d from rfl, restoreElems_extract d h pre post]
  | .arr d, h, pre, post => by
    simp only [restoreVal, projVal, show valsV (.arr d) = vals d from rfl, restoreArr_extract d h pre post 0]
  | .double _, _, pre, post | .int64 _, _, pre, post | .timestamp _ _, _, pre, post | .other _ _, _, pre, post => by
    simp [restoreVal, valsV, extractVal, projVal]
  | .bool b, _, pre, post => by
    simp [restoreVal, valsV, extractVal, projVal, bool_restore]
  | .datetime ms, h, pre, post => by
    simp [restoreVal, valsV, extractVal, projVal, restoreDT, normDT_inRange ms h]
  | .int32 v, _, pre, post => by
    simp [restoreVal, valsV, extractVal, projVal, signExt_truncate]
theorem restoreElems_extract : (d : BDoc) → DatesOk d → ∀ (pre post : Row),
    restoreElems (pre ++ vals d ++ post) pre.length d = (projElems d, pre.length + (vals d).length)
  | .nil, _, pre, post => by simp [restoreElems, vals, extractDoc, projElems]
  | .cons k v r, h, pre, post => by
    have hv := restoreVal_extract v h.1 pre (vals r ++ post)
    have hr := restoreElems_extract r h.2 (pre ++ valsV v) post
    simp only [vals_cons, List.append_assoc, List.length_append] at hv hr ⊢
    simp only [restoreElems, hv, hr, projElems]
    cases projVal v <;> simp [Nat.add_assoc]
theorem restoreArr_extract : (d : BDoc) → DatesOk d → ∀ (pre post : Row) (pos : Nat),
    restoreArr (pre ++ vals d ++ post) pre.length pos d = (projArr pos d, pre.length + (vals d).length)
  | .nil, _, pre, post, pos => by simp [restoreArr, vals, extractDoc, projArr]
  | .cons k v r, h, pre, post, pos => by
    have hv := restoreVal_extract v h.1 pre (vals r ++ post)
    have hr := restoreArr_extract r h.2 (pre ++ valsV v) post
    simp only [vals_cons, List.append_assoc, List.length_append] at hv hr ⊢
    simp only [restoreArr, hv, projArr]
    cases projVal v <;> simp [hr, Nat.add_assoc]
end

theorem restore_extract (d : BDoc) (h : DatesOk d) : restoreDoc d (vals d) = project d := by
  have := restoreElems_extract d h [] []
  simp only [List.nil_append, List.append_nil, List.length_nil] at this
  simp [restoreDoc, project, this]

end Ftdc
