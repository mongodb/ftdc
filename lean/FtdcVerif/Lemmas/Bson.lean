import FtdcVerif.Lemmas.Bytes
/-!
`parseDoc (serDoc d) = some d` for every well-formed tree (`WFDoc`): keys are NUL-free, nested documents
are shorter than 2^31 bytes, and every non-metric leaf `other t raw` carries a value the strict
parser itself accepts for type `t` (`OtherOk`; shown for strings, null, ObjectID, decimal128 at the end).
-/
namespace Ftdc

def KeyOk (k : Bytes) : Prop := ∀ b ∈ k, b ≠ 0

theorem cstring_append (k r : Bytes) (h : KeyOk k) : cstring (k ++ 0 :: r) = some (k, r) := by
  induction k with
  | nil => simp [cstring]
  | cons b k ih =>
    obtain ⟨hb, hk⟩ := List.forall_mem_cons.1 h
    simp only [List.cons_append, cstring, hb, if_false, ih hk]

/-- `t ≠ 0`: `parseElems` takes tag 0 for the end of the element list -/
def OtherOk (t : Nat) (raw : Bytes) : Prop :=
  t ≠ 0 ∧ ∀ fuel rest, parseVal (fuel + 1) t (raw ++ rest) = some (.other t raw, rest)

mutual
def WFVal : BVal → Prop
  | .doc d => WFDoc d ∧ (serDoc d).length < 2 ^ 31
  | .arr d => WFDoc d ∧ (serDoc d).length < 2 ^ 31
  | .other t raw => OtherOk t raw
  | _ => True
def WFDoc : BDoc → Prop
  | .nil => True
  | .cons k v r => KeyOk k ∧ WFVal v ∧ WFDoc r
end

mutual
/-- fuel the parser needs; `+ 2`: on an embedded document `parseVal` spends one unit and calls `parseDocF`,
which spends one and calls `parseElems` -/
def needVal : BVal → Nat
  | .doc d => needElems d + 2
  | .arr d => needElems d + 2
  | _ => 1
def needElems : BDoc → Nat
  | .nil => 1
  | .cons _ v r => 1 + max (needVal v) (needElems r)
end

mutual
theorem needVal_le : (v : BVal) → needVal v ≤ (serVal v).length + 1
  | .doc d | .arr d => by
    have := needElems_le d
    simp only [needVal, serVal, serDoc_length]; omega
  | .double _ | .bool _ | .datetime _ | .int32 _ | .timestamp _ _ | .int64 _ | .other _ _ => by simp [needVal]
theorem needElems_le : (d : BDoc) → needElems d ≤ (serElems d).length + 1
  | .nil => by simp [needElems, serElems]
  | .cons k v r => by
    have h1 := needVal_le v
    have h2 := needElems_le r
    simp only [needElems, serElems, List.length_append, List.length_cons]
    omega
end

theorem parseDocF_serDoc_of (d : BDoc) (fuel : Nat) (hl : (serDoc d).length < 2 ^ 31)
    (h : parseElems fuel (serElems d ++ [0]) = some d) : parseDocF (fuel + 1) (serDoc d) = some d := by
  obtain ⟨h5, _, hsz⟩ := serDoc_wellFramed d hl
  have hd : (serDoc d).drop 4 = serElems d ++ [0] := by
    simp only [serDoc]
    rw [List.append_assoc, List.drop_left' (le32_length _)]
  rw [parseDocF, if_neg (Nat.not_lt.2 h5), if_neg (not_not_intro hsz), hd, h]

mutual
theorem parseVal_ser : (v : BVal) → (fuel : Nat) → (rest : Bytes) → WFVal v → needVal v ≤ fuel →
    parseVal fuel v.tag (serVal v ++ rest) = some (v, rest)
  | .double b, fuel + 1, rest, _, _ | .datetime b, fuel + 1, rest, _, _ | .int64 b, fuel + 1, rest, _, _ => by
    simp [BVal.tag, serVal, parseVal, takeN_append _ _ 8 (le64_length _), rdLe_le64 _ b.isLt]
  | .bool b, fuel + 1, rest, _, _ => by
    cases b <;> simp [BVal.tag, serVal, parseVal]
  | .int32 b, fuel + 1, rest, _, _ => by
    simp [BVal.tag, serVal, parseVal, takeN_append _ _ 4 (le32_length _), rdLe_le32 _ b.isLt]
  | .timestamp t i, fuel + 1, rest, _, _ => by
    have h8 : takeN 8 (le32 i.toNat ++ (le32 t.toNat ++ rest)) = some (le32 i.toNat ++ le32 t.toNat, rest) := by
      rw [← List.append_assoc]; exact takeN_append _ _ 8 (by simp [le32_length])
    simp [BVal.tag, serVal, parseVal, h8, List.take_left' (le32_length _), List.drop_left' (le32_length _),
      rdLe_le32 _ i.isLt, rdLe_le32 _ t.isLt]
  | .other t raw, fuel + 1, rest, h, _ => by
    simp only [BVal.tag, serVal]
    exact h.2 fuel rest
  | .doc d, fuel + 1, rest, h, hf | .arr d, fuel + 1, rest, h, hf => by
    obtain ⟨hw, hl⟩ := h
    simp only [needVal] at hf
    obtain ⟨f', rfl⟩ := Nat.exists_eq_add_one_of_ne_zero (n := fuel) (by omega)
    have hdoc := parseDocF_serDoc_of d f' hl (parseElems_ser d f' hw (by omega))
    obtain ⟨h4, hr, hno, ht⟩ := (serDoc_wellFramed d hl).split rest
    simp [BVal.tag, serVal, parseVal, h4, hr, hno, ht, hdoc]
  | v, 0, _, _, hf => by cases v <;> simp [needVal] at hf
theorem parseElems_ser : (d : BDoc) → (fuel : Nat) → WFDoc d → needElems d ≤ fuel →
    parseElems fuel (serElems d ++ [0]) = some d
  | .nil, fuel + 1, _, _ => by simp [serElems, parseElems]
  | .nil, 0, _, hf | .cons _ _ _, 0, _, hf => by simp [needElems] at hf
  | .cons k v r, fuel + 1, h, hf => by
    obtain ⟨hk, hv, hr⟩ := h
    have hf : needVal v ≤ fuel ∧ needElems r ≤ fuel := by
      rwa [needElems, Nat.add_comm, Nat.add_le_add_iff_right, Nat.max_le] at hf
    have hvt : v.tag ≠ 0 := by
      cases v <;> simp [BVal.tag]
      exact hv.1
    have ihv := parseVal_ser v fuel (serElems r ++ [0]) hv hf.1
    have ihr := parseElems_ser r fuel hr hf.2
    have e : serElems (.cons k v r) ++ [0] = v.tag :: (k ++ 0 :: (serVal v ++ (serElems r ++ [0]))) := by
      simp [serElems]
    rw [e]
    simp only [parseElems, hvt, if_false, cstring_append _ _ hk, ihv, ihr]
end

theorem parseDoc_serDoc (d : BDoc) (hw : WFDoc d) (hl : (serDoc d).length < 2 ^ 31) :
    parseDoc (serDoc d) = some d := by
  have := needElems_le d
  have hlen := serDoc_length d
  -- `parseDoc` starts with `length + 2`: one unit for `parseDocF`, and `needElems_le` for `parseElems`
  exact parseDocF_serDoc_of d ((serDoc d).length + 1) hl (parseElems_ser d _ hw (by omega))

/-- string / JavaScript / symbol values: int32 length (incl. the NUL), the bytes, NUL -/
theorem otherOk_string (t : Nat) (ht : t = 0x02 ∨ t = 0x0D ∨ t = 0x0E) (str : Bytes)
    (hl : str.length + 1 < 2 ^ 31) : OtherOk t (le32 (str.length + 1) ++ str ++ [0]) := by
  refine ⟨by omega, ?_⟩
  intro fuel rest
  have hlp : lpString (le32 (str.length + 1) ++ (str ++ 0 :: rest)) =
      some (le32 (str.length + 1) ++ (str ++ [0]), rest) := by
    have e : str ++ 0 :: rest = (str ++ [0]) ++ rest := by simp
    rw [lpString, e, takeN_append _ _ 4 (le32_length _)]
    simp only [rdLe_le32 _ (show str.length + 1 < 2 ^ 32 by omega)]
    rw [if_neg (by omega), takeN_append _ _ _ (by simp)]
    simp
  rcases ht with h | h | h <;> subst h <;> simp [parseVal, hlp]

/-- undefined, null, min key, max key -/
theorem otherOk_empty (t : Nat) (ht : t = 0x06 ∨ t = 0x0A ∨ t = 0xFF ∨ t = 0x7F) : OtherOk t [] := by
  refine ⟨by omega, ?_⟩
  intro fuel rest
  rcases ht with h | h | h | h <;> subst h <;> simp [parseVal]

theorem otherOk_objectID (raw : Bytes) (hl : raw.length = 12) : OtherOk 0x07 raw := by
  refine ⟨by omega, ?_⟩
  intro fuel rest
  simp [parseVal, takeN_append raw rest 12 hl]

theorem otherOk_decimal (raw : Bytes) (hl : raw.length = 16) : OtherOk 0x13 raw := by
  refine ⟨by omega, ?_⟩
  intro fuel rest
  simp [parseVal, takeN_append raw rest 16 hl]

end Ftdc
