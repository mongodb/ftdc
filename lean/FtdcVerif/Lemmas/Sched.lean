/-! Every transition system of the development runs a list of scheduler choices by
`List.foldl (fun s p => (step s p).getD s)` (a blocked choice is skipped): what every enabled step preserves, every
run preserves (`Sched.foldl_inv`).  `List.foldl_history` is the same for invariants that speak of the part of the list
consumed so far. -/

theorem List.foldl_history {σ α : Type _} (f : σ → α → σ) (R : σ → List α → Prop) (l : List α) (s0 : σ) (h0 : R s0 [])
    (hstep : ∀ s pre a post, l = pre ++ a :: post → R s pre → R (f s a) (pre ++ [a])) : R (l.foldl f s0) l := by
  suffices ∀ post pre s, l = pre ++ post → R s pre → R (post.foldl f s) l from this l [] s0 rfl h0
  intro post
  induction post with
  | nil => intro pre s hl h; rwa [hl, List.append_nil]
  | cons a post ih =>
    intro pre s hl h
    exact ih (pre ++ [a]) (f s a) (by simpa using hl) (hstep s pre a post hl h)

namespace Ftdc.Sched

theorem foldl_inv {σ π : Type _} {step : σ → π → Option σ} {P : σ → Prop}
    (hstep : ∀ s p s', P s → step s p = some s' → P s') (sched : List π) (s : σ) (h : P s) :
    P (sched.foldl (fun s p => (step s p).getD s) s) :=
  List.foldlRecOn sched _ h fun s hs p _ => by
    cases e : step s p with
    | none => exact hs
    | some s' => exact hstep s p s' hs e

end Ftdc.Sched
