import FtdcVerif.Model.Pipeline
import FtdcVerif.Lemmas.Sched
/-! `Inv` ties, for the repaired order (record the error, then close the channel), where each goroutine of the reader
pipeline stands to what is in the catcher: when the consumer finds `pipe` closed and empty on a failing input, the error
is already registered (`registered_at_close`, C05).  After cancellation each step of D or C lowers `pot` (C06). -/
namespace Ftdc.Pipeline

/-- an item that is not good is in a goroutine's hands: D holds it while sending, or C while decoding -/
def slotFail (s : St) : Bool :=
  (match s.dpc with | .sending x => x != .good | _ => false) ||
  (match s.cpc with | .decode x => x != .good | _ => false)

def cEnded (s : St) : Bool := s.cpc = .adding || s.cpc = .closing || s.cpc = .done
def dEnded (s : St) : Bool := s.dpc = .adding || s.dpc = .closing || s.dpc = .done

/-- `F`: the input fails somewhere.  `d_registered`, `c_registered`: a failure is in the catcher before the goroutine
closes its channel (the repaired order, `af`).  `d_clean_end`, `c_clean_end`: without a failure or a cancellation a goroutine
stops only when its input is exhausted (`items = []` for D, `ipc` closed for C).  `conserved`: until a cancellation, the
item that makes the input fail is still in `items`, or in a goroutine's hands (`slotFail`), or has made a goroutine fail.
`seen` is the property (C05). -/
structure Inv (F : Bool) (s : St) : Prop where
  af : s.addFirst = true
  pipeClosed_done : s.pipeClosed = true → s.cpc = .done
  c_registered : (s.cpc = .closing ∨ s.cpc = .done) → s.cFailed = true → s.cErrIn = true
  c_clean_end : cEnded s = true → s.cFailed = false → s.cancelled = false → s.ipcClosed = true
  ipc_done : s.ipcClosed = true → s.dpc = .done
  d_done_closed : s.dpc = .done → s.ipcClosed = true
  c_done_closed : s.cpc = .done → s.pipeClosed = true
  d_in_failed : s.dErrIn = true → s.dFailed = true
  c_in_failed : s.cErrIn = true → s.cFailed = true
  d_registered : (s.dpc = .closing ∨ s.dpc = .done) → s.dFailed = true → s.dErrIn = true
  d_clean_end : dEnded s = true → s.dFailed = false → s.cancelled = false → s.items = []
  c_failed_ended : s.cFailed = true → cEnded s = true
  d_failed_ended : s.dFailed = true → dEnded s = true
  conserved : F = true → s.cancelled = false →
    (s.cFailed || s.dFailed || slotFail s || Fails s.items) = true
  seen : s.sawFalse = true → F = true → s.cancelled = false → s.errSeen = true

theorem init_inv (items : List Item) : Inv (Fails items) (init true items) := by
  constructor <;> simp [init, cEnded, dEnded, slotFail]

/-- The step that reports: when `Next` finds the pipe closed and empty on a failing input, the error
is already in the catcher. C is done, so its own failure is registered; otherwise it ended cleanly on a
closed `ipc`, so D is done and the same holds of D; otherwise D read the whole input, and nothing is
left that could fail. -/
theorem registered_at_close (F : Bool) (s : St) (h : Inv F s) (hcl : s.pipeClosed = true)
    (hF : F = true) (hnc : s.cancelled = false) : (s.dErrIn || s.cErrIn) = true := by
  have hdone := h.pipeClosed_done hcl
  cases hcf : s.cFailed with
  | true => simp [h.c_registered (.inr hdone) hcf]
  | false =>
    have hdd := h.ipc_done (h.c_clean_end (by simp [cEnded, hdone]) hcf hnc)
    cases hdf : s.dFailed with
    | true => simp [h.d_registered (.inr hdd) hdf]
    | false =>
      have hitems := h.d_clean_end (by simp [dEnded, hdd]) hdf hnc
      have := h.conserved hF hnc
      simp [hcf, hdf, slotFail, hdd, hdone, hitems, Fails] at this

/-- At the reporting step no clause but `seen` mentions what changes, and `seen` is `registered_at_close`; at every other
step the clauses that mention what the step changes follow from the pre-state's by propositional reasoning.  The goals come
in the order of the arms of the model's `step`. -/
theorem step_inv (F : Bool) (s : St) (p : Pid) (s' : St) (h : Inv F s) (hs : step s p = some s') : Inv F s' := by
  revert hs
  fun_cases step s p <;> intro hs <;> cases hs <;>
    first
    | exact { h with seen := fun _ => registered_at_close F s h ‹_› }
    | (cases h  -- the fifteen clauses as hypotheses: cheaper for `grind` than taking `h : Inv F s` apart itself
       grind -ring -linarith -lia [Inv, cEnded, dEnded, slotFail, Fails])

theorem step_inv_cancel (F : Bool) (s s' : St) (h : Inv F s) (hs : step s .cancel = some s') : Inv F s' :=
  step_inv F s .cancel s' h hs

theorem step_inv_d (F : Bool) (s s' : St) (h : Inv F s) (hs : step s .d = some s') : Inv F s' :=
  step_inv F s .d s' h hs

theorem step_inv_c (F : Bool) (s s' : St) (h : Inv F s) (hs : step s .c = some s') : Inv F s' :=
  step_inv F s .c s' h hs

theorem step_inv_u (F : Bool) (s s' : St) (h : Inv F s) (hs : step s .u = some s') : Inv F s' :=
  step_inv F s .u s' h hs

theorem run_inv (F : Bool) (sched : List Pid) : ∀ (s : St), Inv F s → Inv F (run s sched) :=
  Sched.foldl_inv (step_inv F) sched

/-- Work left for D and C.  The constants are set by the hand-off over `ipc`, the one step that moves both goroutines:
D falls from `sending` to `read` (−5) while C rises from `recv` to `decode` (+4), which pays for C's round
`decode`, `send`, `recv` (7, 6, 3).  So an item costs D six: one for reading it, five for handing it over. -/
def dPot (s : St) : Nat :=
  match s.dpc with
  | .read => 6 * s.items.length + 3
  | .sending _ => 6 * s.items.length + 8
  | .adding => 2
  | .closing => 1
  | .done => 0

def cPot (s : St) : Nat :=
  match s.cpc with
  | .recv => 3
  | .decode _ => 7
  | .send => 6
  | .adding => 2
  | .closing => 1
  | .done => 0

def pot (s : St) : Nat := dPot s + cPot s

theorem cancelled_no_deadlock (F : Bool) (s : St) (h : Inv F s) (hc : s.cancelled = true)
    (hlive : s.dpc ≠ .done ∨ s.cpc ≠ .done) : (step s .d).isSome ∨ (step s .c).isSome := by
  have af := h.af
  by_cases hd : s.dpc = .done
  · -- D is done, so `ipc` is closed and C's receive is never blocked; its send has the cancel arm
    have hcl := h.d_done_closed hd
    right
    -- `fun_cases` wants variables for arguments: the pid is generalized, and `hp` closes the arms of the other pids
    generalize hp : Pid.c = p
    fun_cases step s p <;> first | exact absurd hp (by decide) | simp_all
  · -- D is alive: the send is its one step that can block, and that has the cancel arm
    left
    generalize hp : Pid.d = p
    fun_cases step s p <;> first | exact absurd hp (by decide) | simp_all

theorem flags_monotone (F : Bool) (s : St) (p : Pid) (s' : St) (h : Inv F s) (hs : step s p = some s') :
    (s.dErrIn = true → s'.dErrIn = true) ∧ (s.cErrIn = true → s'.cErrIn = true) := by
  have hd := h.d_in_failed
  have hc := h.c_in_failed
  revert hs
  -- only the two `adding` steps touch a flag
  fun_cases step s p <;> intro hs <;> cases hs <;> first | exact ⟨id, id⟩ | simp_all

end Ftdc.Pipeline
