import FtdcVerif.Lemmas.BatchE2E
import FtdcVerif.Lemmas.SchemaHash
/-!
# The dynamic collector, run by run

Documents of one schema have one schema key (`sim_schemaKey`), so on them the dynamic collector is one batch
collector.  On runs with changing keys it holds one batch collector per run.  A run is a pair `s : BDoc × List BDoc`
(head comment of `StreamE2E`) whose tail has the head's schema: `InSim s`, spelled out in the statements here.
-/
namespace Ftdc

theorem dynamic_is_batch (n : Nat) (k : Bytes × Nat) (ds : List BDoc) (pre : List Batch) (b : Batch)
    (hk : ∀ d ∈ ds, schemaKey d = k) :
    ds.foldl (fun (c : Dynamic) d => (c.add d).1) { maxSamples := n, chunks := pre ++ [b], hash := some k } =
      { maxSamples := n, chunks := pre ++ [ds.foldl (fun (b : Batch) d => (b.add d).1) b], hash := some k } :=
  List.foldl_rel (r := fun (c : Dynamic) (b : Batch) => c = ⟨n, pre ++ [b], some k⟩) rfl fun d hd c b e => by
    rw [e, Dynamic.add_same (c := ⟨n, pre ++ [b], some k⟩) d rfl (by rw [hk d hd]) rfl]

theorem dynamic_resolve_one (c : Dynamic) (b : Batch) (h : c.chunks = [b]) : c.resolve = b.resolve := by
  unfold Dynamic.resolve
  rw [h, List.foldl_cons, List.foldl_nil]
  cases b.resolve <;> simp

def batchOf (n : Nat) (s : BDoc × List BDoc) : Batch :=
  (chunkDocs s).foldl (fun (b : Batch) d => (b.add d).1) (Batch.new n)

/-- the first document of the next run has a schema key other than `k`.  Only the hash input `.1` is compared, as the
dynamic collector does (`c.hash == docHash`, collector_dynamic.go:68).  The streaming one compares metric count and hash
(collector_streaming.go:118), the whole key: a difference in `.1` is one of the keys too (`sd_add_diff`). -/
def HeadDiff (k : Bytes × Nat) : List (BDoc × List BDoc) → Prop
  | [] => True
  | s :: _ => (schemaKey s.1).1 ≠ k.1

def AdjDiff : List (BDoc × List BDoc) → Prop
  | [] => True
  | s :: r => HeadDiff (schemaKey s.1) r ∧ AdjDiff r

/-- `chunks` is written `[] ++ [_]` to be, as it stands, the `pre ++ [b]` that `dyn_segs` starts from -/
theorem dyn_first_seg (n : Nat) (s : BDoc × List BDoc) (hsim : InSim s) :
    (chunkDocs s).foldl (fun (c : Dynamic) d => (c.add d).1) (Dynamic.new n) =
      { maxSamples := n, chunks := [] ++ [batchOf n s], hash := some (schemaKey s.1) } := by
  simp only [chunkDocs, List.foldl_cons, batchOf]
  rw [Dynamic.add_first (c := Dynamic.new n) s.1 rfl rfl]
  exact dynamic_is_batch n (schemaKey s.1) s.2 [] _ (fun d hd => (sim_schemaKey s.1 d (hsim d hd)).symm)

theorem dynamic_one_schema (n : Nat) (d0 : BDoc) (ds : List BDoc) (hsim : ∀ d ∈ ds, SimDoc d0 d) :
    ((d0 :: ds).foldl (fun (c : Dynamic) d => (c.add d).1) (Dynamic.new n)).chunks =
      [(d0 :: ds).foldl (fun (b : Batch) d => (b.add d).1) (Batch.new n)] :=
  congrArg Dynamic.chunks (dyn_first_seg n (d0, ds) hsim)

theorem dyn_seg (n : Nat) (pre : List Batch) (b : Batch) (k : Bytes × Nat) (s : BDoc × List BDoc)
    (hne : (schemaKey s.1).1 ≠ k.1) (hsim : ∀ d ∈ s.2, SimDoc s.1 d) :
    (chunkDocs s).foldl (fun (c : Dynamic) d => (c.add d).1) { maxSamples := n, chunks := pre ++ [b], hash := some k } =
      { maxSamples := n, chunks := (pre ++ [b]) ++ [batchOf n s], hash := some (schemaKey s.1) } := by
  simp only [chunkDocs, List.foldl_cons, batchOf]
  rw [Dynamic.add_other (c := ⟨n, pre ++ [b], some k⟩) s.1 rfl hne.symm,
    dynamic_is_batch n (schemaKey s.1) s.2 (pre ++ [b]) _ (fun d hd => (sim_schemaKey s.1 d (hsim d hd)).symm)]

theorem dyn_segs (n : Nat) : ∀ (segs : List (BDoc × List BDoc)) (pre : List Batch) (b : Batch) (k : Bytes × Nat),
    (∀ s ∈ segs, ∀ d ∈ s.2, SimDoc s.1 d) → HeadDiff k segs → AdjDiff segs →
    ∃ k', (segs.flatMap chunkDocs).foldl (fun (c : Dynamic) d => (c.add d).1)
        { maxSamples := n, chunks := pre ++ [b], hash := some k } =
      { maxSamples := n, chunks := (pre ++ [b]) ++ segs.map (batchOf n), hash := some k' } := by
  intro segs
  induction segs with
  | nil => intro pre b k _ _ _; exact ⟨k, by simp⟩
  | cons s rest ih =>
    intro pre b k hsim hh hadj
    simp only [List.flatMap_cons, List.foldl_append]
    rw [dyn_seg n pre b k s hh (hsim s (List.mem_cons_self ..))]
    obtain ⟨k', hk'⟩ := ih (pre ++ [b]) (batchOf n s) (schemaKey s.1)
      (fun x hx => hsim x (List.mem_cons_of_mem _ hx)) hadj.1 hadj.2
    exact ⟨k', by rw [hk']; simp⟩

theorem dynamic_runs (n : Nat) (s0 : BDoc × List BDoc) (segs : List (BDoc × List BDoc))
    (hsim : ∀ s ∈ s0 :: segs, ∀ d ∈ s.2, SimDoc s.1 d) (hadj : AdjDiff (s0 :: segs)) :
    (((s0 :: segs).flatMap chunkDocs).foldl (fun (c : Dynamic) d => (c.add d).1) (Dynamic.new n)).chunks =
      (s0 :: segs).map (batchOf n) := by
  simp only [List.flatMap_cons, List.foldl_append]
  rw [dyn_first_seg n s0 (hsim s0 (List.mem_cons_self ..))]
  obtain ⟨k', hk'⟩ := dyn_segs n segs [] (batchOf n s0) (schemaKey s0.1)
    (fun x hx => hsim x (List.mem_cons_of_mem _ hx)) hadj.1 hadj.2
  rw [hk']
  simp

/-- if each run's batch collector resolves to chunks that make up the run and satisfy `Dec`, the fold appends them in
order; `Dec` carries C01's decoding claim -/
theorem resolve_batches (n : Nat) (Dec : BDoc × List BDoc → Prop) :
    ∀ (segs : List (BDoc × List BDoc)) (acc : List (BDoc × List BDoc)),
    (∀ s ∈ segs, ∃ runs : List (BDoc × List BDoc), (batchOf n s).resolve = some (runs.map mkChunk) ∧
        (runs.map chunkDocs).flatten = chunkDocs s ∧ ∀ p ∈ runs, Dec p) →
    ∃ runs : List (BDoc × List BDoc),
      (segs.map (batchOf n)).foldl (fun acc b => match acc, b.resolve with
        | some l, some o => some (l ++ o)
        | _, _ => none) (some (acc.map mkChunk)) = some ((acc ++ runs).map mkChunk) ∧
      (runs.map chunkDocs).flatten = segs.flatMap chunkDocs ∧ ∀ p ∈ runs, Dec p := by
  intro segs
  induction segs with
  | nil => intro acc _; exact ⟨[], by rw [List.append_nil]; rfl, rfl, nofun⟩
  | cons s rest ih =>
    intro acc h
    obtain ⟨r1, hr1, hf1, hd1⟩ := h s (List.mem_cons_self ..)
    obtain ⟨r2, hr2, hf2, hd2⟩ := ih (acc ++ r1) (fun x hx => h x (List.mem_cons_of_mem _ hx))
    refine ⟨r1 ++ r2, ?_, by simp [hf1, hf2], List.forall_mem_append.2 ⟨hd1, hd2⟩⟩
    simp only [List.map_cons, List.foldl_cons, hr1]
    rw [← List.map_append, hr2, List.append_assoc]

end Ftdc
