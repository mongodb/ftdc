import FtdcVerif.Lemmas.DynE2E
/-!
# The schema-aware streaming collector on any sequence of schemas

On documents of one schema, hence of one schema key (`sim_schemaKey`), it is the streaming collector (`sd_one_schema`).
For changing keys, the ghost invariant `SDG`: `SG` of the wrapped streaming collector with the chunks `chs` written and
`p` pending, every chunk of one schema, and the remembered key the key of the pending chunk.  A document of the pending
chunk's schema is a step of `SG`; a document with another key flushes first.
-/
namespace Ftdc

theorem sd_is_streaming (k : Bytes × Nat) (ds : List BDoc) (s : Streaming) (hk : ∀ d ∈ ds, schemaKey d = k) :
    ds.foldl (fun (c : StreamingDynamic) d => (c.add d).1) { s := s, hash := some k } =
      { s := ds.foldl (fun (s : Streaming) d => (s.add d).1) s, hash := some k } :=
  List.foldl_rel (r := fun (c : StreamingDynamic) (s : Streaming) => c = ⟨s, some k⟩) rfl fun d hd c s e => by
    have hnf : ¬ StreamingDynamic.needFlush ⟨s, some k⟩ d := fun h =>
      (StreamingDynamic.needFlush_of_hash rfl d).1 h (hk d hd).symm
    rw [e, StreamingDynamic.add_noflush hnf, hk d hd]

theorem sd_first (n : Nat) (d : BDoc) : (StreamingDynamic.new n).add d =
    ({ s := ((Streaming.new n).add d).1, hash := some (schemaKey d) }, ((Streaming.new n).add d).2) :=
  StreamingDynamic.add_noflush (c := .new n) (mt (StreamingDynamic.needFlush_of_no_hash rfl d).1 (Nat.lt_irrefl 0))

theorem sd_one_schema (n : Nat) (d0 : BDoc) (ds : List BDoc) (hsim : ∀ d ∈ ds, SimDoc d0 d) :
    ((d0 :: ds).foldl (fun (c : StreamingDynamic) d => (c.add d).1) (StreamingDynamic.new n)).s =
      (d0 :: ds).foldl (fun (s : Streaming) d => (s.add d).1) (Streaming.new n) := by
  simp only [List.foldl_cons]
  rw [sd_first, sd_is_streaming (schemaKey d0) ds _ (fun d hd => (sim_schemaKey d0 d (hsim d hd)).symm)]

structure SDG (n : Nat) (c : StreamingDynamic) (chs : List (BDoc × List BDoc)) (p : BDoc × List BDoc) : Prop where
  sg : SG n c.s chs (some p)
  hash : c.hash = some (schemaKey p.1)
  runs : ∀ q ∈ chs, InSim q
  pend : InSim p

theorem SDG.inSim_all {n : Nat} {c : StreamingDynamic} {chs : List (BDoc × List BDoc)} {p : BDoc × List BDoc}
    (g : SDG n c chs p) : ∀ q ∈ chs ++ [p], InSim q :=
  List.forall_mem_append.2 ⟨g.runs, List.forall_mem_singleton.2 g.pend⟩

/-- `sg_add_cases` with a chunk pending: a flush is then for capacity, so the chunk written is full (`SDX`'s last clause) -/
theorem sd_add_same_cases {n : Nat} {c : StreamingDynamic} {chs : List (BDoc × List BDoc)} {p : BDoc × List BDoc}
    {d : BDoc} (hn : 1 ≤ n) (g : SDG n c chs p) (hsim : SimDoc p.1 d) :
    (c.add d).2 = .ok ∧
      (SDG n (c.add d).1 chs (p.1, p.2 ++ [d]) ∨ (SDG n (c.add d).1 (chs ++ [p]) (d, []) ∧ p.2.length + 1 = n)) := by
  have hk : schemaKey p.1 = schemaKey d := sim_schemaKey _ _ hsim
  obtain ⟨hok, hcase⟩ := sg_add_cases hn d g.sg (by intro q hq; cases hq; exact hsim)
  rw [StreamingDynamic.add_noflush fun h => (StreamingDynamic.needFlush_of_hash g.hash d).1 h hk]
  rcases hcase with ⟨q, hq, g'⟩ | ⟨g', hfull⟩
  · cases hq
    exact ⟨hok, .inl {
      sg := g'
      hash := by simp [hk]
      runs := g.runs
      pend := List.forall_mem_append.2 ⟨g.pend, List.forall_mem_singleton.2 hsim⟩ }⟩
  · exact ⟨hok, .inr ⟨{ sg := g', hash := rfl, runs := g.inSim_all, pend := nofun }, hfull p rfl⟩⟩

theorem sd_add_same (n : Nat) (hn : 1 ≤ n) (c : StreamingDynamic) (chs : List (BDoc × List BDoc)) (p : BDoc × List BDoc)
    (d : BDoc) (g : SDG n c chs p) (hsim : SimDoc p.1 d) :
    (c.add d).2 = .ok ∧ ∃ chs' p', SDG n (c.add d).1 chs' p' ∧ allDocs chs' (some p') = allDocs chs (some p) ++ [d] ∧
      SimDoc p'.1 d := by
  obtain ⟨hok, hcase⟩ := sd_add_same_cases hn g hsim
  rcases hcase with g' | ⟨g', _⟩
  · exact ⟨hok, _, _, g', by simp [allDocs, chunkDocs], hsim⟩
  · exact ⟨hok, _, _, g', by simp [allDocs, chunkDocs], simDoc_refl _⟩

theorem sd_add_diff (n : Nat) (hn : 1 ≤ n) (c : StreamingDynamic) (chs : List (BDoc × List BDoc)) (p : BDoc × List BDoc)
    (d : BDoc) (g : SDG n c chs p) (hne : (schemaKey d).1 ≠ (schemaKey p.1).1) :
    (c.add d).2 = .ok ∧ SDG n (c.add d).1 (chs ++ [p]) (d, []) := by
  obtain ⟨f1, f2⟩ := sg_flush n c.s chs p g.sg
  -- the collector compares whole keys (metric count and hash input)
  have hkne : schemaKey p.1 ≠ schemaKey d := fun e => hne (congrArg Prod.fst e.symm)
  obtain ⟨hok, g'⟩ := sg_add_none hn d f2
  rw [StreamingDynamic.add_flush ((StreamingDynamic.needFlush_of_hash g.hash d).2 hkne) (c.flush_snd.trans f1),
    StreamingDynamic.flush_fst_s]
  exact ⟨hok, { sg := g', hash := rfl, runs := g.inSim_all, pend := nofun }⟩

theorem sd_add_first (n : Nat) (hn : 1 ≤ n) (d : BDoc) :
    ((StreamingDynamic.new n).add d).2 = .ok ∧ SDG n ((StreamingDynamic.new n).add d).1 [] (d, []) := by
  obtain ⟨hok, g'⟩ := sg_add_none hn d (sg_new n)
  rw [sd_first]
  exact ⟨hok, { sg := g', hash := rfl, runs := nofun, pend := nofun }⟩

theorem sd_run_same {n : Nat} {c : StreamingDynamic} {chs : List (BDoc × List BDoc)} {p : BDoc × List BDoc}
    (hn : 1 ≤ n) (d0 : BDoc) (ds : List BDoc) (g : SDG n c chs p) (hp : SimDoc p.1 d0)
    (hds : ∀ d ∈ ds, SimDoc d0 d) :
    ∃ chs' p', SDG n (ds.foldl (fun (c : StreamingDynamic) d => (c.add d).1) c) chs' p' ∧
      allDocs chs' (some p') = allDocs chs (some p) ++ ds ∧ SimDoc p'.1 d0 := by
  refine List.foldl_history _ (fun c' pre => ∃ chs' p', SDG n c' chs' p' ∧
    allDocs chs' (some p') = allDocs chs (some p) ++ pre ∧ SimDoc p'.1 d0) ds c ⟨chs, p, g, by simp, hp⟩ ?_
  rintro c' pre d post hl ⟨chs1, p1, g1, ha1, hs1⟩
  have hd : SimDoc d0 d := hds d (by simp [hl])
  obtain ⟨_, chs2, p2, g2, ha2, hs2⟩ := sd_add_same n hn c' chs1 p1 d g1 (simDoc_trans _ _ _ hs1 hd)
  exact ⟨chs2, p2, g2, by rw [ha2, ha1, List.append_assoc], simDoc_trans _ _ _ hs2 (simDoc_symm _ _ hd)⟩

theorem sd_segs (n : Nat) (hn : 1 ≤ n) : ∀ (segs : List (BDoc × List BDoc)) (c : StreamingDynamic)
    (chs : List (BDoc × List BDoc)) (p : BDoc × List BDoc) (h : BDoc), SDG n c chs p → SimDoc p.1 h →
    (∀ s ∈ segs, InSim s) → HeadDiff (schemaKey h) segs → AdjDiff segs →
    ∃ chs' p', SDG n ((segs.flatMap chunkDocs).foldl (fun (c : StreamingDynamic) d => (c.add d).1) c) chs' p' ∧
      allDocs chs' (some p') = allDocs chs (some p) ++ segs.flatMap chunkDocs := by
  intro segs
  induction segs with
  | nil => intro c chs p d0 g _ _ _ _; exact ⟨chs, p, g, by simp⟩
  | cons s rest ih =>
    intro c chs p d0 g hp hsim hh hadj
    have hne : (schemaKey s.1).1 ≠ (schemaKey p.1).1 := by rw [sim_schemaKey _ _ hp]; exact hh
    -- the head of `s` closes the pending chunk, its tail follows
    obtain ⟨chs1, p1, g1, ha1, hs1⟩ := sd_run_same hn s.1 s.2 (sd_add_diff n hn c chs p s.1 g hne).2 (simDoc_refl _)
      (hsim s (List.mem_cons_self ..))
    obtain ⟨chs2, p2, g2, ha2⟩ := ih _ chs1 p1 s.1 g1 hs1 (fun x hx => hsim x (List.mem_cons_of_mem _ hx)) hadj.1 hadj.2
    refine ⟨chs2, p2, by simpa [List.flatMap_cons, List.foldl_append, chunkDocs] using g2, ?_⟩
    rw [ha2, ha1]; simp [allDocs, chunkDocs]

theorem sd_runs (n : Nat) (hn : 1 ≤ n) (s0 : BDoc × List BDoc) (segs : List (BDoc × List BDoc))
    (hsim : ∀ s ∈ s0 :: segs, InSim s) (hadj : AdjDiff (s0 :: segs)) :
    ∃ chs p, SDG n (((s0 :: segs).flatMap chunkDocs).foldl (fun (c : StreamingDynamic) d => (c.add d).1)
        (StreamingDynamic.new n)) chs p ∧
      allDocs chs (some p) = (s0 :: segs).flatMap chunkDocs := by
  obtain ⟨_, g0⟩ := sd_add_first n hn s0.1
  obtain ⟨chs1, p1, g1, ha1, hs1⟩ := sd_run_same hn s0.1 s0.2 g0 (simDoc_refl _)
    (hsim s0 (List.mem_cons_self ..))
  obtain ⟨chs2, p2, g2, ha2⟩ := sd_segs n hn segs _ chs1 p1 s0.1 g1 hs1
    (fun x hx => hsim x (List.mem_cons_of_mem _ hx)) hadj.1 hadj.2
  refine ⟨chs2, p2, by simpa [List.flatMap_cons, List.foldl_append, chunkDocs] using g2, ?_⟩
  rw [ha2, ha1]; simp [allDocs, chunkDocs]

end Ftdc
