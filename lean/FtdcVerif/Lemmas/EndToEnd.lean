import FtdcVerif.Lemmas.Rle
import FtdcVerif.Lemmas.Bson
import FtdcVerif.Lemmas.Collector
import FtdcVerif.Lemmas.Sched
/-!
A chunk's payload decodes to the projections of the documents it was built from.  `decode_payload_of_counts`, the
lemma the property files build on, composes three facts: the reference document parses back (Lemmas/Bson), the delta
stream decodes, column by column, to the columns `getPayload` wrote (`rle_roundtrip`, `rleDecMetrics_of_flat`), and the
decoded columns, transposed, are the rows (`rows_of_columns`).  Documents of one schema (`SimDoc`: equal shapes) are what
the base collector accepts into one chunk (`Holds`) and what `restoreDoc` turns back into their projections.
-/
namespace Ftdc

/-! documents of one schema: same keys, nesting and element types, any values -/
mutual
def SimVal : BVal → BVal → Prop
  | .double _, .double _ => True
  | .doc a, .doc b => SimDoc a b
  | .arr a, .arr b => SimDoc a b
  | .bool _, .bool _ => True
  | .datetime _, .datetime _ => True
  | .int32 _, .int32 _ => True
  | .timestamp _ _, .timestamp _ _ => True
  | .int64 _, .int64 _ => True
  | .other _ _, .other _ _ => True
  | _, _ => False
def SimDoc : BDoc → BDoc → Prop
  | .nil, .nil => True
  | .cons k v r, .cons k' v' r' => k = k' ∧ SimVal v v' ∧ SimDoc r r'
  | _, _ => False
end

/-! `SimDoc` is equality of shapes: a document with every value erased.  What only looks at keys, nesting and
element types (`restoreDoc`'s use of its reference document, the type row, the schema key) is invariant under
`shapeDoc`, hence equal on documents of one schema. -/
mutual
def shapeVal : BVal → BVal
  | .double _ => .double 0#64
  | .doc d => .doc (shapeDoc d)
  | .arr d => .arr (shapeDoc d)
  | .bool _ => .bool false
  | .datetime _ => .datetime 0#64
  | .int32 _ => .int32 0#32
  | .timestamp _ _ => .timestamp 0#32 0#32
  | .int64 _ => .int64 0#64
  | .other _ _ => .other 0 []
def shapeDoc : BDoc → BDoc
  | .nil => .nil
  | .cons k v r => .cons k (shapeVal v) (shapeDoc r)
end

mutual
theorem simVal_iff : (a b : BVal) → (SimVal a b ↔ shapeVal a = shapeVal b)
  | .doc x, b | .arr x, b => by cases b <;> simp [SimVal, shapeVal, simDoc_iff x]
  | .double _, b | .bool _, b | .datetime _, b | .int32 _, b | .timestamp _ _, b | .int64 _, b | .other _ _, b => by
    cases b <;> simp [SimVal, shapeVal]
theorem simDoc_iff : (a b : BDoc) → (SimDoc a b ↔ shapeDoc a = shapeDoc b)
  | .nil, b => by cases b <;> simp [SimDoc, shapeDoc]
  | .cons _ v r, .nil => by simp [SimDoc, shapeDoc]
  | .cons _ v r, .cons _ v' r' => by simp [SimDoc, shapeDoc, simVal_iff v v', simDoc_iff r r']
end

theorem simVal_refl : (a : BVal) → SimVal a a := fun a => (simVal_iff a a).2 rfl
theorem simDoc_refl : (a : BDoc) → SimDoc a a := fun a => (simDoc_iff a a).2 rfl
theorem simVal_symm : (a b : BVal) → SimVal a b → SimVal b a :=
  fun a b h => (simVal_iff b a).2 ((simVal_iff a b).1 h).symm
theorem simDoc_symm (a b : BDoc) (h : SimDoc a b) : SimDoc b a := (simDoc_iff b a).2 ((simDoc_iff a b).1 h).symm
theorem simVal_trans : (a b c : BVal) → SimVal a b → SimVal b c → SimVal a c := fun a b c h1 h2 =>
  (simVal_iff a c).2 (((simVal_iff a b).1 h1).trans ((simVal_iff b c).1 h2))
theorem simDoc_trans (a b c : BDoc) (h1 : SimDoc a b) (h2 : SimDoc b c) : SimDoc a c :=
  (simDoc_iff a c).2 (((simDoc_iff a b).1 h1).trans ((simDoc_iff b c).1 h2))
theorem simDoc_of_common {a x y : BDoc} (hx : SimDoc a x) (hy : SimDoc a y) : SimDoc x y :=
  simDoc_trans _ _ _ (simDoc_symm _ _ hx) hy

mutual
theorem typesVal_shape : (v : BVal) → (extractVal (shapeVal v)).map (·.2) = (extractVal v).map (·.2)
  | .doc d | .arr d => typesDoc_shape d
  | .double _ | .bool _ | .datetime _ | .int32 _ | .timestamp _ _ | .int64 _ | .other _ _ => by
    simp [shapeVal, extractVal]
theorem typesDoc_shape : (d : BDoc) → (extractDoc (shapeDoc d)).map (·.2) = (extractDoc d).map (·.2)
  | .nil => rfl
  | .cons _ v r => by
    rw [shapeDoc, extractDoc, extractDoc, List.map_append, List.map_append, typesVal_shape v, typesDoc_shape r]
end

theorem simVal_types : (a b : BVal) → SimVal a b → (extractVal a).map (·.2) = (extractVal b).map (·.2) := by
  intro a b h; rw [← typesVal_shape a, (simVal_iff a b).1 h, typesVal_shape]
theorem simDoc_types (a b : BDoc) (h : SimDoc a b) : (extractDoc a).map (·.2) = (extractDoc b).map (·.2) := by
  rw [← typesDoc_shape a, (simDoc_iff a b).1 h, typesDoc_shape]
theorem simVal_length : (a b : BVal) → SimVal a b → (valsV a).length = (valsV b).length := by
  intro a b h; simpa [valsV] using congrArg List.length (simVal_types a b h)
theorem simDoc_length (a b : BDoc) (h : SimDoc a b) : (vals a).length = (vals b).length := by
  simpa [vals] using congrArg List.length (simDoc_types a b h)

mutual
theorem restoreVal_shape (row : Row) : (v : BVal) → ∀ idx, restoreVal row idx (shapeVal v) = restoreVal row idx v
  | .doc d => by intro idx; simp [shapeVal, restoreVal, restoreElems_shape row d]
  | .arr d => by intro idx; simp [shapeVal, restoreVal, restoreArr_shape row d]
  | .double _ | .bool _ | .datetime _ | .int32 _ | .timestamp _ _ | .int64 _ | .other _ _ => fun _ => rfl
theorem restoreElems_shape (row : Row) : (d : BDoc) → ∀ idx, restoreElems row idx (shapeDoc d) = restoreElems row idx d
  | .nil => by intro idx; rfl
  | .cons _ v r => by intro idx; simp [shapeDoc, restoreElems, restoreVal_shape row v, restoreElems_shape row r]
theorem restoreArr_shape (row : Row) : (d : BDoc) → ∀ idx pos, restoreArr row idx pos (shapeDoc d) = restoreArr row idx pos d
  | .nil => by intro idx pos; rfl
  | .cons _ v r => by intro idx pos; simp [shapeDoc, restoreArr, restoreVal_shape row v, restoreArr_shape row r]
end

theorem restoreVal_sim : (ref v : BVal) → SimVal ref v → DatesOkVal v → ∀ (pre post : Row),
    restoreVal (pre ++ valsV v ++ post) pre.length ref = (projVal v, pre.length + (valsV v).length) := by
  intro ref v h hd pre post
  rw [← restoreVal_shape, (simVal_iff ref v).1 h, restoreVal_shape, restoreVal_extract v hd]
theorem restoreArr_sim : (ref d : BDoc) → SimDoc ref d → DatesOk d → ∀ (pre post : Row) (pos : Nat),
    restoreArr (pre ++ vals d ++ post) pre.length pos ref = (projArr pos d, pre.length + (vals d).length) := by
  intro ref d h hd pre post pos
  rw [← restoreArr_shape, (simDoc_iff ref d).1 h, restoreArr_shape, restoreArr_extract d hd]

/-- restoring from the values of ANOTHER document of the same schema yields that document's
projection: the reference document contributes keys, nesting and types only -/
theorem restoreDoc_sim (ref d : BDoc) (h : SimDoc ref d) (hd : DatesOk d) :
    restoreDoc ref (vals d) = project d := by
  rw [← restore_extract d hd, restoreDoc, restoreDoc, ← restoreElems_shape, (simDoc_iff ref d).1 h, restoreElems_shape]

/-! The decoder's starting values are the reference document's values, provided it has no timestamp leaves
(known finding F1: the starting value the decoder computes for a timestamp is not the value written). -/
mutual
def NoTsVal : BVal → Prop
  | .timestamp _ _ => False
  | .doc d => NoTs d
  | .arr d => NoTs d
  | _ => True
def NoTs : BDoc → Prop
  | .nil => True
  | .cons _ v r => NoTsVal v ∧ NoTs r
end

mutual
theorem starts_val : (v : BVal) → NoTsVal v → ∀ (key : Bytes) (path : List Bytes),
    (metricsVal key path v).map (·.start) = valsV v
  | .double _, _, _, _ | .bool _, _, _, _ | .datetime _, _, _, _ | .int32 _, _, _, _ | .int64 _, _, _, _
  | .other _ _, _, _, _ => rfl
  | .doc d, h, key, path => starts_elems d h (path ++ [key])
  | .arr d, h, key, path => starts_arr d h key path 0
  | .timestamp _ _, h, _, _ => h.elim
theorem starts_elems : (d : BDoc) → NoTs d → ∀ (path : List Bytes),
    (metricsElems path d).map (·.start) = vals d
  | .nil, _, _ => rfl
  | .cons k v r, h, path => by
    rw [metricsElems, List.map_append, starts_val v h.1, starts_elems r h.2, vals_cons]
theorem starts_arr : (d : BDoc) → NoTs d → ∀ (key : Bytes) (path : List Bytes) (idx : Nat),
    (metricsArr key path idx d).map (·.start) = vals d
  | .nil, _, _, _, _ => rfl
  | .cons k v r, h, key, path, idx => by
    rw [metricsArr, List.map_append, starts_val v h.1, starts_arr r h.2, vals_cons]
end

theorem starts_of (d : BDoc) (h : NoTs d) : (metricsOf d).map (·.start) = vals d := starts_elems d h []

/-- reading the whole stream in one go gives every column -/
theorem rleDecMetrics_of_flat : ∀ (cols : List (List I64)) (nd nz : Nat) (bs : Bytes) (nz' : Nat) (r : Bytes),
    (∀ c ∈ cols, c.length = nd) →
    rleDecAux (cols.length * nd) nz bs = some (cols.flatten, nz', r) →
    rleDecMetrics cols.length nd nz bs = some cols := by
  intro cols
  induction cols with
  | nil => intro nd nz bs nz' r _ _; simp [rleDecMetrics]
  | cons c cols ih =>
    intro nd nz bs nz' r hl h
    have e : (c :: cols).length * nd = nd + cols.length * nd := by
      rw [List.length_cons, Nat.succ_mul, Nat.add_comm]
    rw [e, rleDecAux_append] at h
    obtain ⟨⟨ds, nz1, r1⟩, h1, h⟩ := Option.bind_eq_some_iff.1 h
    obtain ⟨⟨ds', nz2, r2⟩, h2, h⟩ := Option.map_eq_some_iff.1 h
    simp only [List.flatten_cons, Prod.mk.injEq] at h
    -- the first `nd` deltas read are the first column, the others the remaining columns
    obtain ⟨rfl, rfl⟩ := List.append_inj h.1 (by rw [rleDecAux_length h1, hl c (List.mem_cons_self ..)])
    simp only [rleDecMetrics, List.length_cons, h1,
      ih nd nz1 r1 nz2 r2 (fun c' hc' => hl c' (List.mem_cons_of_mem _ hc')) h2]

/-- the columns `getPayload` writes -/
def colsOf (first : Row) (rows : List Row) : List (List I64) :=
  (List.range first.length).map fun i => deltas (first.getD i 0) (column rows i)

theorem colsOf_length (first : Row) (rows : List Row) : (colsOf first rows).length = first.length := by
  simp [colsOf]

theorem colsOf_mem_length (first : Row) (rows : List Row) : ∀ c ∈ colsOf first rows, c.length = rows.length := by
  intro c hc
  simp only [colsOf, List.mem_map, List.mem_range] at hc
  obtain ⟨i, _, rfl⟩ := hc
  simp [deltas_length, column]

theorem rows_of_columns (rs : List Row) (w : Nat) (h : ∀ r ∈ rs, r.length = w) :
    ((List.range rs.length).map fun j => ((List.range w).map (column rs)).map (·.getD j 0)) = rs := by
  apply List.ext_getElem (by simp)
  intro j _ hj
  apply List.ext_getElem (by simp [h _ (List.getElem_mem hj)])
  intro i _ hi
  simp [column, hj, hi]

theorem values_of_metrics (ms : List Metric) (first : Row) (rows : List Row) (hs : ms.map (·.start) = first) :
    ((ms.zip (colsOf first rows)).map fun (p : Metric × List I64) => undelta p.1.start p.2) =
      (List.range first.length).map (column (first :: rows)) := by
  subst hs
  apply List.ext_getElem (by simp [colsOf])
  intro i _ h
  have hi : i < ms.length := by simpa using h
  simp [colsOf, column, hi, undelta_deltas]

/-- the left-hand side is `Chunk.rows`, unfolded, of the chunk `decodePayload_layout` returns -/
theorem rows_of_metrics (ms : List Metric) (first : Row) (rows : List Row)
    (hs : ms.map (·.start) = first) (hrows : ∀ r ∈ rows, r.length = first.length) :
    ((List.range (rows.length + 1)).map fun j =>
      (((ms.zip (colsOf first rows)).map fun (p : Metric × List I64) =>
        ({ p.1 with values := undelta p.1.start p.2 } : Metric)).map fun m => m.values.getD j 0)) =
      first :: rows := by
  have := rows_of_columns (first :: rows) first.length (by simpa using hrows)
  rw [← values_of_metrics ms first rows hs] at this
  simpa only [List.map_map, Function.comp_def, List.length_cons] using this

theorem decodePayload_layout {db stream : Bytes} {ref : BDoc} {nm nd : Nat} {cols : List (List I64)}
    (hdb : WellFramed db) (hp : parseDoc db = some ref) (hnm : nm < 2 ^ 32) (hnd : nd < 2 ^ 32)
    (hms : (metricsOf ref).length = nm) (hdec : rleDecMetrics nm nd 0 stream = some cols) :
    decodePayload (db ++ ((le32 nm ++ le32 nd) ++ stream)) = .ok
      { ref := ref
        metrics := ((metricsOf ref).zip cols).map fun (p : Metric × List I64) =>
          ({ p.1 with values := undelta p.1.start p.2 } : Metric)
        nPoints := nd + 1 } := by
  obtain ⟨h4, hr, hno, ht⟩ := hdb.split ((le32 nm ++ le32 nd) ++ stream)
  have h8 : takeN 8 ((le32 nm ++ le32 nd) ++ stream) = some (le32 nm ++ le32 nd, stream) :=
    takeN_append _ _ 8 (by simp [le32_length])
  have e1 : rdLe ((le32 nm ++ le32 nd).take 4) = nm := by rw [List.take_left' (le32_length _), rdLe_le32 _ hnm]
  have e2 : rdLe ((le32 nm ++ le32 nd).drop 4) = nd := by rw [List.drop_left' (le32_length _), rdLe_le32 _ hnd]
  simp only [decodePayload, h4, hr, hno, ht, hp, h8, e1, e2, hms, hdec, if_false, ne_eq, not_true_eq_false]

/-- 2^31: the reader takes a document's length field as an `int32` (`readBufBSON`, read.go:180; the test `l ≥ 2 ^ 31` of
`decodePayload` and `frame`).  2^32: `getPayload` writes the two counts as `uint32` (collector_better.go:156; `le32` in
`payloadOf`). -/
theorem decode_payload_of_counts (ref : BDoc) (rows : List Row)
    (hw : WFDoc ref) (hl : (serDoc ref).length < 2 ^ 31) (hts : NoTs ref)
    (hrows : ∀ r ∈ rows, r.length = (vals ref).length)
    (hnm : (vals ref).length < 2 ^ 32) (hn : rows.length < 2 ^ 32) :
    ∃ c, decodePayload (payloadOf ref (vals ref) rows) = .ok c ∧ c.ref = ref ∧
      c.rows = vals ref :: rows := by
  have hs := starts_of ref hts
  have hcl := colsOf_length (vals ref) rows
  have hcm := colsOf_mem_length (vals ref) rows
  have hfl := flatten_length_const _ _ hcm
  have hlt : (colsOf (vals ref) rows).flatten.length < 2 ^ 64 := by
    have := Nat.mul_lt_mul'' hnm hn
    have e : (2 : Nat) ^ 32 * 2 ^ 32 = 2 ^ 64 := by decide
    rw [hfl, hcl]; omega
  have h1 := rle_roundtrip (colsOf (vals ref) rows).flatten [] hlt
  simp only [List.append_nil, hfl] at h1
  have hdec := rleDecMetrics_of_flat (colsOf (vals ref) rows) rows.length 0 _ 0 [] hcm h1
  rw [hcl] at hdec
  have := decodePayload_layout (serDoc_wellFramed ref hl) (parseDoc_serDoc ref hw hl) hnm hn
    (by rw [← hs]; simp) hdec
  have ep : payloadOf ref (vals ref) rows = serDoc ref ++
      ((le32 (vals ref).length ++ le32 rows.length) ++ rleEnc (colsOf (vals ref) rows).flatten) := by
    simp [payloadOf, colsOf]
  rw [← ep] at this
  exact ⟨_, this, rfl, rows_of_metrics (metricsOf ref) (vals ref) rows hs hrows⟩

/-- `decode_payload_of_counts` with the hypothesis `hsz`, which follows from `hnm` and `hn` and is not used -/
theorem decode_payload (ref : BDoc) (rows : List Row)
    (hw : WFDoc ref) (hl : (serDoc ref).length < 2 ^ 31) (hts : NoTs ref)
    (hrows : ∀ r ∈ rows, r.length = (vals ref).length)
    (hnm : (vals ref).length < 2 ^ 32) (hn : rows.length < 2 ^ 32)
    (hsz : (vals ref).length * rows.length < 2 ^ 64) :
    ∃ c, decodePayload (payloadOf ref (vals ref) rows) = .ok c ∧ c.ref = ref ∧
      c.rows = vals ref :: rows :=
  decode_payload_of_counts ref rows hw hl hts hrows hnm hn

/-- the base collector after reference document `d0` and documents `pre`.  `metadata = none`: the end-to-end theorems are
about collectors without `SetMetadata`, so `Resolve` returns the chunk alone.  Last clause: the type row `Add` compares
with. -/
def Holds (n : Nat) (d0 : BDoc) (pre : List BDoc) (c : Better) : Prop :=
  c.ref = some d0 ∧ c.first = vals d0 ∧ c.rows = pre.map vals ∧ c.metadata = none ∧ c.maxDeltas = n ∧
  c.startedAt = tsDoc d0 ∧ c.last.map (·.2) = (extractDoc d0).map (·.2)

theorem Holds.resolve {n : Nat} {d0 : BDoc} {pre : List BDoc} {c : Better} (h : Holds n d0 pre c) :
    c.resolve = some [.chunk (tsDoc d0) d0 (vals d0) (pre.map vals)] := by
  obtain ⟨hr, hfirst, hrows, hmd, _, hst, _⟩ := h
  rw [Better.resolve_of_ref hr, hmd, hfirst, hrows, hst]; rfl

theorem Holds.size {n : Nat} {d0 : BDoc} {pre : List BDoc} {c : Better} (h : Holds n d0 pre c) :
    c.info.2 = pre.length + 1 ∧ c.samples.length = pre.length + 1 := by
  obtain ⟨hr, _, hrows, _⟩ := h
  simp [Better.info, Better.samples, hr, hrows, Nat.add_comm]

theorem holds_first (n : Nat) (d : BDoc) (b : Better) (hr : b.ref = none) (hm : b.metadata = none) (hd : b.maxDeltas = n) :
    (b.add d).2 = .ok ∧ Holds n d [] (b.add d).1 := by
  simp [Better.add, hr, Holds, vals, hm, hd]

theorem holds_step {n : Nat} {d0 : BDoc} {pre : List BDoc} {c : Better} {d : BDoc} (h : Holds n d0 pre c)
    (hl : pre.length + 1 ≤ n) (hs : SimDoc d0 d) : (c.add d).2 = .ok ∧ Holds n d0 (pre ++ [d]) (c.add d).1 := by
  obtain ⟨hr, hfirst, hrows, hmd, hmax, hst, hlast⟩ := h
  have hty := simDoc_types d0 d hs
  have hlen : (extractDoc d).length = c.last.length := by
    simpa using congrArg List.length (hty.symm.trans hlast.symm)
  have hroom : ¬ c.rows.length ≥ c.maxDeltas := by
    rw [hrows, hmax]; simp; omega
  have hadd : c.add d = ({ c with last := extractDoc d, rows := c.rows ++ [(extractDoc d).map (·.1)] }, .ok) := by
    simp only [Better.add, hr, hroom, if_false, hlen, ne_eq, not_true_eq_false, hlast, hty]
  rw [hadd]
  -- of the parts of `Holds`, `add` has changed `rows` and, last, the type row
  refine ⟨rfl, hr, hfirst, ?rows, hmd, hmax, hst, hty.symm⟩
  simp [hrows, vals]

/-- a fresh base collector accepts documents of the first document's schema while there is room -/
theorem better_adds (n : Nat) (d0 : BDoc) (ds : List BDoc) (hl : ds.length ≤ n) (hs : ∀ d ∈ ds, SimDoc d0 d) :
    Holds n d0 ds (ds.foldl (fun (c : Better) d => (c.add d).1) (({ maxDeltas := n } : Better).add d0).1) := by
  refine List.foldl_history _ (fun c pre => Holds n d0 pre c) ds _ (holds_first n d0 { maxDeltas := n } rfl rfl rfl).2 ?_
  rintro c pre d post rfl h
  exact (holds_step h (by simp at hl; omega) (hs d (by simp))).2

end Ftdc
