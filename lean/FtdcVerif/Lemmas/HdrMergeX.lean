import FtdcVerif.Lemmas.HdrRank
/-!
# Merging histograms of different configurations (the "X" of `mergeX_fold`: across configurations)

`Merge` re-records, for every non-empty position of its argument, the lowest value of that
position with the position's count.  So every value `a` the argument holds arrives as
`lowestEquiv g a`; it is counted as dropped iff the receiver rejects that value.
-/
namespace Ftdc.Hdr

/-- the value `Merge` re-records for `a` -/
def rep (g : Hist) (a : Nat) : Int := (lowestEquiv g a : Nat)

theorem foldl_mergeStep (h : Hist) (L : List IterPos) : ∀ (c : List Int) (t d : Int),
    L.foldl mergeStep (withCounts h c t, d) =
      (withCounts h (addAll (fun p => accepts h p.valueFrom) (fun p => cix h p.valueFrom) IterPos.countAt c L)
         (t + (L.map fun p => if accepts h p.valueFrom then p.countAt else 0).sum),
       d + (L.map fun p => if !accepts h p.valueFrom then p.countAt else 0).sum) := by
  induction L with
  | nil => intro c t d; simp [addAll]
  | cons p L ih =>
    intro c t d
    rw [List.foldl_cons, mergeStep_eq]
    simp only [addAll, List.foldl_cons, List.map_cons, List.sum_cons]
    cases accepts h p.valueFrom with
    | true =>
      rw [if_pos rfl, ih]
      simp only [addAll, if_true, Bool.not_true, Bool.false_eq_true, if_false, Int.zero_add, Int.add_assoc]
    | false =>
      rw [if_neg Bool.false_ne_true, ih]
      simp only [addAll, Bool.false_eq_true, if_false, Bool.not_false, if_true, Int.zero_add, Int.add_assoc]

/-- `sum_positions_weighted` with a property `Q` of the re-recorded value in place of a weight: a count -/
theorem sum_positions {g : Hist} (wf : WF g) {A : List Nat} (hA : ∀ a ∈ A, a < cap g)
    (hcnt : ∀ k, g.counts.getD k 0 = ((A.countP fun a => idx g a == k : Nat) : Int)) (Q : Int → Bool)
    (n j : Nat) (h : ∀ a ∈ A, idx g a < j + n) :
    ((((List.range' j n).filter fun k => decide (g.counts.getD k 0 ≠ 0)).map (posAt g)).map
        fun p => if Q p.valueFrom then p.countAt else 0).sum =
      ((A.countP fun a => decide (j ≤ idx g a) && Q (rep g a) : Nat) : Int) := by
  have e : (fun p : IterPos => if Q p.valueFrom then p.countAt else 0) =
      fun p => p.countAt * (fun v : Nat => if Q v then (1 : Int) else 0) p.valueFrom := by
    funext p; dsimp only; split <;> simp
  rw [e, sum_positions_weighted wf hA hcnt (fun v : Nat => if Q v then (1 : Int) else 0) n j h, ← sum_ite_one]
  refine congrArg List.sum (List.map_congr_left fun a _ => ?_)
  by_cases h1 : j ≤ idx g a <;> simp [h1, rep]

/-- the fold of `Merge` over the positions from index `j` on, into a receiver `h` of any
configuration: every value of the argument with index ≥ `j` is re-recorded as its `rep`, or counted
as dropped if the receiver rejects it (the fuel hypothesis: see `merge_fold`) -/
theorem mergeX_fold {g : Hist} (wf : WF g) (hlen : g.counts.length = g.countsLen)
    (hn : ∀ x ∈ g.counts, 0 ≤ x) (hsum : g.counts.sum = g.total)
    (A : List Nat) (hA : ∀ a ∈ A, a < cap g)
    (hcnt : ∀ k, g.counts.getD k 0 = ((A.countP fun a => idx g a == k : Nat) : Int))
    (h : Hist) :
    ∀ (fuel b : Nat) (s : Int) (j : Nat) (c : List Int) (t d : Int),
      St (2 ^ g.halfMag) b s j → c.length = h.countsLen → g.countsLen + 1 ≤ fuel + j →
      ∃ c', ((iterFrom fuel g b s (pre g.counts j)).filter (fun p => p.countAt ≠ 0)).foldl mergeStep
            (withCounts h c t, d) =
          (withCounts h c' (t + ((A.countP fun a => decide (j ≤ idx g a) && accepts h (rep g a) : Nat) : Int)),
           d + ((A.countP fun a => decide (j ≤ idx g a) && !accepts h (rep g a) : Nat) : Int)) ∧
        c'.length = h.countsLen ∧
        ∀ i, c'.getD i 0 = c.getD i 0 +
          ((A.countP fun a => decide (j ≤ idx g a) && (accepts h (rep g a) && (cix h (rep g a) == i)) : Nat) : Int) := by
  intro fuel b s j c t d st hc hf
  have hlt : ∀ a ∈ A, idx g a < j + (g.countsLen - j) := fun a ha =>
    Nat.lt_of_lt_of_le (idx_lt_countsLen wf (hA a ha)) (Nat.sub_le_iff_le_add'.1 (Nat.le_refl _))
  rw [iterFrom_nz wf hn hsum st (Nat.le_of_succ_le hf), foldl_mergeStep, sum_positions wf hA hcnt (fun v => accepts h v) _ j hlt,
    sum_positions wf hA hcnt (fun v => !accepts h v) _ j hlt]
  exact ⟨_, rfl, (addAll_length ..).trans hc, fun i => by
    rw [addAll_getD _ _ _ _ i c fun p _ ha => hc ▸ accepts_cix_lt ha,
      sum_positions wf hA hcnt (fun v => accepts h v && cix h v == i) _ j hlt]⟩

theorem Holds.merge {g : Hist} {A : List Nat} (H : Holds g A) (h : Hist) (hl : h.counts.length = h.countsLen) :
    Hdr.merge h g =
      (recordAll h (A.map (rep g)), ((A.countP fun a => !accepts h (rep g a) : Nat) : Int)) := by
  obtain ⟨c', e, hc', hg⟩ := mergeX_fold H.wf H.inv.1 H.nonneg H.inv.2 A H.lt_cap H.cnt h (g.countsLen + 2) 0 (-1) 0
    h.counts h.total 0 (st_start _) hl (by omega)
  refine e.trans ?_
  rw [recordAll_eq_cnts, Int.zero_add]
  have : c' = cnts h h.counts (A.map (rep g)) := by
    apply ext_getD
    · rw [hc', cnts_length, hl]
    · intro i; rw [hg i, cnts_getD h _ i _ hl, List.countP_map]; rfl
  rw [this, ← List.countP_eq_length_filter, List.countP_map]
  rfl

end Ftdc.Hdr
