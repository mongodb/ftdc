import FtdcVerif.Lemmas.StreamE2E
/-!
# End to end for the batch collector

Documents of one schema added to a batch collector with chunk size `n`: chunk `i` holds the consecutive documents
`runs[i]` (`AllHold`, through `Holds` of the base collector), at most `n` of them, and `Resolve` returns one metric
chunk for each.
-/
namespace Ftdc

def AllHold (n : Nat) : List Better → List (BDoc × List BDoc) → Prop
  | [], [] => True
  | c :: cs, p :: ps => Holds n p.1 p.2 c ∧ p.2.length + 1 ≤ n ∧ AllHold n cs ps
  | _, _ => False

theorem allHold_append {n : Nat} {cs : List Better} {ps : List (BDoc × List BDoc)} {c : Better} (p : BDoc × List BDoc)
    (h : AllHold n cs ps) (hh : Holds n p.1 p.2 c) (hl : p.2.length + 1 ≤ n) : AllHold n (cs ++ [c]) (ps ++ [p]) := by
  fun_induction AllHold n cs ps with
  | case1 => exact ⟨hh, hl, trivial⟩
  | case2 c0 cs p0 ps ih => exact ⟨h.1, h.2.1, ih h.2.2⟩
  | case3 => exact h.elim

theorem allHold_last {n : Nat} {cs : List Better} {ps : List (BDoc × List BDoc)} (h : AllHold n cs ps) (hne : ps ≠ []) :
    ∃ cs' c ps' p, cs = cs' ++ [c] ∧ ps = ps' ++ [p] ∧ AllHold n cs' ps' ∧ Holds n p.1 p.2 c ∧ p.2.length + 1 ≤ n := by
  fun_induction AllHold n cs ps with
  | case1 => exact absurd rfl hne
  | case2 c cs p ps ih =>
    by_cases hps : ps = []
    · subst hps
      cases cs with
      | nil => exact ⟨[], c, [], p, rfl, rfl, trivial, h.1, h.2.1⟩
      | cons _ _ => exact False.elim h.2.2
    · obtain ⟨cs', c', ps', p', rfl, rfl, a, b⟩ := ih h.2.2 hps
      exact ⟨c :: cs', c', p :: ps', p', rfl, rfl, ⟨h.1, h.2.1, a⟩, b⟩
  | case3 => exact h.elim

theorem allHold_le {n : Nat} {cs : List Better} {ps : List (BDoc × List BDoc)} (h : AllHold n cs ps) :
    ∀ q ∈ ps, q.2.length + 1 ≤ n := by
  fun_induction AllHold n cs ps with
  | case1 => simp
  | case2 c cs p ps ih => exact List.forall_mem_cons.2 ⟨h.2.1, ih h.2.2⟩
  | case3 => exact h.elim

theorem allHold_sizes {n : Nat} {cs : List Better} {ps : List (BDoc × List BDoc)} (h : AllHold n cs ps) :
    ps.map (fun p => p.2.length + 1) = cs.map (fun c => c.samples.length) := by
  fun_induction AllHold n cs ps with
  | case1 => rfl
  | case2 c cs p ps ih => rw [List.map_cons, List.map_cons, h.1.size.2, ih h.2.2]
  | case3 => exact h.elim

/-- the fold of `Batch.resolve`: one metric chunk for each chunk held -/
theorem allHold_resolve (n : Nat) : ∀ (cs : List Better) (ps : List (BDoc × List BDoc)) (acc : List OutDoc),
    AllHold n cs ps →
    cs.foldl (fun a b => match a, b.resolve with
      | some l, some o => some (l ++ o)
      | _, _ => none) (some acc) = some (acc ++ ps.map mkChunk) := by
  intro cs ps
  fun_induction AllHold n cs ps with
  | case1 => exact fun acc _ => (congrArg some (List.append_nil acc)).symm
  | case2 c cs p ps ih =>
    intro acc h
    rw [List.foldl_cons, h.1.resolve, ih _ h.2.2, List.map_cons, List.append_assoc]
    rfl
  | case3 => exact fun _ h => h.elim

theorem Batch.resolve_of_allHold {n : Nat} {b : Batch} {ps : List (BDoc × List BDoc)} (h : AllHold n b.chunks ps) :
    b.resolve = some (ps.map mkChunk) := by
  have := allHold_resolve n _ ps [] h
  rwa [List.nil_append] at this

/-- ghost invariant of the batch collector fed with documents of one schema.  Before the first document there is one
empty chunk, not none (`Batch.new` allocates it), and `AllHold` cannot describe it: `Holds` wants a reference document. -/
def BG (n : Nat) (b : Batch) (runs : List (BDoc × List BDoc)) : Prop :=
  b.maxSamples = n ∧
  ((runs = [] ∧ b.chunks = [({ maxDeltas := n } : Better)]) ∨ (runs ≠ [] ∧ AllHold n b.chunks runs))

theorem bg_add (n : Nat) (hn : 1 ≤ n) (b : Batch) (runs : List (BDoc × List BDoc)) (d : BDoc) (g : BG n b runs)
    (hsim : ∀ p, runs.getLast? = some p → SimDoc p.1 d) :
    (b.add d).2 = .ok ∧ ∃ runs', BG n (b.add d).1 runs' ∧
      (runs'.map chunkDocs).flatten = (runs.map chunkDocs).flatten ++ [d] := by
  obtain ⟨hm, hcase⟩ := g
  rcases hcase with ⟨rfl, hc⟩ | ⟨hne, hall⟩
  · obtain ⟨hok, hh'⟩ := holds_first n d { maxDeltas := n } rfl rfl rfl
    rw [Batch.add_room (init := []) d hc (by simp [Better.info, hm]; omega)]
    have hall' : AllHold n _ [(d, [])] := allHold_append (cs := []) (ps := []) (d, []) trivial hh' (by simpa using hn)
    exact ⟨hok, [(d, [])], ⟨hm, .inr ⟨by simp, hall'⟩⟩, by simp [chunkDocs]⟩
  · obtain ⟨init, lastC, ps', p, hx, rfl, ha, hh, hle⟩ := allHold_last hall hne
    rw [hx] at hall
    by_cases hfull : lastC.info.2 ≥ b.maxSamples
    · obtain ⟨hok, hh'⟩ := holds_first n d { maxDeltas := b.maxSamples } rfl rfl hm
      rw [Batch.add_full d hx hfull, hx]
      have hall' : AllHold n _ (ps' ++ [p] ++ [(d, [])]) := allHold_append (d, []) hall hh' (by simpa using hn)
      exact ⟨hok, ps' ++ [p] ++ [(d, [])], ⟨hm, .inr ⟨by simp, hall'⟩⟩, by simp [chunkDocs]⟩
    · rw [Batch.add_room d hx hfull]
      rw [hh.size.1, hm] at hfull
      obtain ⟨hok, hh'⟩ := holds_step hh (by omega) (hsim p (by simp))
      have hall' : AllHold n _ (ps' ++ [(p.1, p.2 ++ [d])]) := allHold_append _ ha hh' (by simp; omega)
      exact ⟨hok, ps' ++ [(p.1, p.2 ++ [d])], ⟨hm, .inr ⟨by simp, hall'⟩⟩, by simp [chunkDocs]⟩

theorem bg_run (n : Nat) (hn : 1 ≤ n) (d0 : BDoc) (ds : List BDoc) (hsim : ∀ d ∈ ds, SimDoc d0 d) :
    ∃ runs, BG n ((d0 :: ds).foldl (fun (b : Batch) d => (b.add d).1) (Batch.new n)) runs ∧
      (runs.map chunkDocs).flatten = d0 :: ds := by
  refine List.foldl_history _ (fun b pre => ∃ runs, BG n b runs ∧ (runs.map chunkDocs).flatten = pre) _ _
    ⟨[], ⟨rfl, .inl ⟨rfl, rfl⟩⟩, rfl⟩ ?_
  rintro b pre d post hl ⟨runs, g, h⟩
  obtain ⟨_, runs', g', h'⟩ := bg_add n hn b runs d g fun p hp =>
    have hmem : p.1 ∈ pre :=
      h ▸ List.mem_flatten_of_mem (List.mem_map_of_mem (List.mem_of_getLast? hp)) List.mem_cons_self
    sim_of_history hsim hl p.1 hmem
  exact ⟨runs', g', by rw [h', h]⟩

/-- after the first document `BG` is in its second case -/
theorem bg_run_holds (n : Nat) (hn : 1 ≤ n) (d0 : BDoc) (ds : List BDoc) (hsim : ∀ d ∈ ds, SimDoc d0 d) :
    ∃ runs, AllHold n ((d0 :: ds).foldl (fun (b : Batch) d => (b.add d).1) (Batch.new n)).chunks runs ∧
      (runs.map chunkDocs).flatten = d0 :: ds := by
  obtain ⟨runs, ⟨_, hcase⟩, hall⟩ := bg_run n hn d0 ds hsim
  rcases hcase with ⟨rfl, _⟩ | ⟨_, hallh⟩
  · simp at hall
  · exact ⟨runs, hallh, hall⟩

end Ftdc
