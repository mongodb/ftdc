import FtdcVerif.Lemmas.EndToEnd
import FtdcVerif.Lemmas.StreamSteps
import FtdcVerif.Lemmas.Sched
/-!
# End to end for the streaming collector

Documents of one schema added to a streaming collector with chunk size `n`: every chunk handed to the
writer, and the pending one, is `(head, tail)` of consecutive documents — reference document = head,
first row = its values, rows = the values of the tail — so each decodes to the projections of its
documents, and the chunks concatenated are the documents added.

A pair `p : BDoc × List BDoc` stands for the non-empty list `p.1 :: p.2` (`chunkDocs p`) of consecutive input documents.
Here and in `BatchE2E` it is the documents of one chunk (`chs`, `cur`, `p`; `runs` in the batch collector's statements).
From `DynE2E` on it is also a *run*: a maximal stretch of the input with one schema (`s`, `segs`), which the collectors
cut into chunks.
-/
namespace Ftdc

def mkChunk (p : BDoc × List BDoc) : OutDoc := .chunk (tsDoc p.1) p.1 (vals p.1) (p.2.map vals)

def chunkDocs (p : BDoc × List BDoc) : List BDoc := p.1 :: p.2

/-- the tail has the head's schema -/
def InSim (q : BDoc × List BDoc) : Prop := ∀ x ∈ q.2, SimDoc q.1 x

def allDocs (chs : List (BDoc × List BDoc)) (cur : Option (BDoc × List BDoc)) : List BDoc :=
  (chs.map chunkDocs).flatten ++ (match cur with | none => [] | some p => chunkDocs p)

theorem mem_allDocs {chs : List (BDoc × List BDoc)} {cur : Option (BDoc × List BDoc)} {p : BDoc × List BDoc}
    (hp : p ∈ chs ∨ cur = some p) {x : BDoc} (hx : x ∈ chunkDocs p) : x ∈ allDocs chs cur := by
  rcases hp with hp | rfl
  · exact List.mem_append_left _ (List.mem_flatten.2 ⟨_, List.mem_map_of_mem hp, hx⟩)
  · exact List.mem_append_right _ hx

/-- ghost invariant of the streaming collector fed with documents of one schema: `chs` are the chunks written, `cur` is
the pending one.  `pend` asks for `metadata = none` for the reason `Holds` does. -/
structure SG (n : Nat) (c : Streaming) (chs : List (BDoc × List BDoc)) (cur : Option (BDoc × List BDoc)) : Prop where
  script : c.out.script = []
  maxS : c.maxSamples = n
  logged : logDocs c.out = chs.map mkChunk
  pend : match cur with
    | none => c.inner.ref = none ∧ c.inner.rows = [] ∧ c.inner.metadata = none ∧ c.inner.maxDeltas = n ∧ c.count = 0
    | some p => Holds n p.1 p.2 c.inner ∧ c.count = p.2.length + 1 ∧ p.2.length + 1 ≤ n
  small : ∀ p ∈ chs, p.2.length + 1 ≤ n

theorem SG.size_le {n : Nat} {c : Streaming} {chs : List (BDoc × List BDoc)} {cur : Option (BDoc × List BDoc)}
    (g : SG n c chs cur) {p : BDoc × List BDoc} (hp : p ∈ chs ∨ cur = some p) : p.2.length + 1 ≤ n := by
  rcases hp with hp | rfl
  · exact g.small p hp
  · exact g.pend.2.2

theorem sg_new (n : Nat) : SG n (Streaming.new n) [] none where
  script := rfl
  maxS := rfl
  logged := by simp [logDocs, Streaming.new]
  pend := by simp [Streaming.new]
  small := by simp

theorem sg_flush (n : Nat) (c : Streaming) (chs : List (BDoc × List BDoc)) (p : BDoc × List BDoc)
    (g : SG n c chs (some p)) : (c.flush).2 = true ∧ SG n (c.flush).1 (chs ++ [p]) none := by
  obtain ⟨hh, _, hle⟩ := g.pend
  have ⟨hr, _, _, hmd, hmax, _⟩ := hh
  have hres := hh.resolve
  rw [Better.resolve_of_ref hr, Option.some.injEq] at hres
  rw [Streaming.flush_of_ref g.script hr, hres]
  refine ⟨rfl, {
    script := g.script
    maxS := g.maxS
    logged := ?_
    pend := ⟨rfl, rfl, hmd, hmax, rfl⟩
    small := List.forall_mem_append.2 ⟨g.small, List.forall_mem_singleton.2 hle⟩ }⟩
  show logDocs { c.out with log := _ } = _
  rw [Writer.logDocs_full, g.logged, List.map_append]; rfl

theorem sg_addInner_none {n : Nat} {c : Streaming} {chs : List (BDoc × List BDoc)} (hn : 1 ≤ n) (d : BDoc)
    (g : SG n c chs none) : (c.addInner d).2 = .ok ∧ SG n (c.addInner d).1 chs (some (d, [])) := by
  obtain ⟨hr, _, hmd, hmax, hcount⟩ := g.pend
  obtain ⟨a1, a2⟩ := holds_first n d c.inner hr hmd hmax
  rw [Streaming.addInner_ok a1]
  exact ⟨rfl, { g with pend := ⟨a2, congrArg (· + 1) hcount, hn⟩ }⟩

theorem sg_addInner_some {n : Nat} {c : Streaming} {chs : List (BDoc × List BDoc)} {p : BDoc × List BDoc}
    {d : BDoc} (g : SG n c chs (some p)) (hsim : SimDoc p.1 d) (hroom : p.2.length + 1 < n) :
    (c.addInner d).2 = .ok ∧ SG n (c.addInner d).1 chs (some (p.1, p.2 ++ [d])) := by
  obtain ⟨hh, hcount, _⟩ := g.pend
  obtain ⟨a1, a2⟩ := holds_step hh (Nat.le_of_lt hroom) hsim
  rw [Streaming.addInner_ok a1]
  exact ⟨rfl, { g with pend := ⟨a2, by simp [hcount], by simpa using Nat.succ_le_of_lt hroom⟩ }⟩

/-- `d` joins the pending chunk, or starts the next one: as the first document (`cur = none`) or after the flush of a
pending chunk `q`, hence `chs ++ cur.toList`; that `q` was full is what `SDX` (ChopE2E) records of a run's chunks -/
theorem sg_add_cases {n : Nat} {c : Streaming} {chs : List (BDoc × List BDoc)} {cur : Option (BDoc × List BDoc)}
    (hn : 1 ≤ n) (d : BDoc) (g : SG n c chs cur) (hsim : ∀ p, cur = some p → SimDoc p.1 d) :
    (c.add d).2 = .ok ∧
      ((∃ p, cur = some p ∧ SG n (c.add d).1 chs (some (p.1, p.2 ++ [d]))) ∨
       (SG n (c.add d).1 (chs ++ cur.toList) (some (d, [])) ∧ ∀ q, cur = some q → q.2.length + 1 = n)) := by
  -- a flush happens only with a full pending chunk
  have hfull : c.maxSamples ≤ c.count → ∃ p, cur = some p ∧ p.2.length + 1 = n := by
    intro hge
    rw [g.maxS] at hge
    cases cur with
    | none => obtain ⟨_, _, _, _, hcount⟩ := g.pend; omega
    | some p => exact ⟨p, rfl, Nat.le_antisymm (g.size_le (.inr rfl)) (g.pend.2.1 ▸ hge)⟩
  rcases Streaming.add_cases c d with ⟨hlt, e⟩ | ⟨hge, hf, _⟩ | ⟨hge, _, e⟩
  · rw [g.maxS] at hlt
    rw [e]
    cases cur with
    | none =>
      obtain ⟨k1, k2⟩ := sg_addInner_none hn d g
      exact ⟨k1, .inr ⟨by simpa using k2, nofun⟩⟩
    | some p =>
      obtain ⟨k1, k2⟩ := sg_addInner_some g (hsim p rfl) (g.pend.2.1 ▸ hlt)
      exact ⟨k1, .inl ⟨p, rfl, k2⟩⟩
  · -- the writer never fails
    obtain ⟨p, rfl, _⟩ := hfull hge
    rw [(sg_flush n c chs p g).1] at hf; cases hf
  · obtain ⟨p, rfl, hpn⟩ := hfull hge
    obtain ⟨k1, k2⟩ := sg_addInner_none hn d (sg_flush n c chs p g).2
    rw [e]
    exact ⟨k1, .inr ⟨k2, by rintro q ⟨⟩; exact hpn⟩⟩

theorem sg_add_none {n : Nat} {c : Streaming} {chs : List (BDoc × List BDoc)} (hn : 1 ≤ n) (d : BDoc)
    (g : SG n c chs none) : (c.add d).2 = .ok ∧ SG n (c.add d).1 chs (some (d, [])) := by
  obtain ⟨hok, hcase⟩ := sg_add_cases hn d g (by intro q hq; cases hq)
  rcases hcase with ⟨q, hq, _⟩ | ⟨g', _⟩
  · cases hq
  · exact ⟨hok, by simpa using g'⟩

theorem sg_add (n : Nat) (hn : 1 ≤ n) (c : Streaming) (chs : List (BDoc × List BDoc)) (cur : Option (BDoc × List BDoc))
    (d : BDoc) (g : SG n c chs cur) (hsim : ∀ p, cur = some p → SimDoc p.1 d) :
    (c.add d).2 = .ok ∧ ∃ chs' cur', SG n (c.add d).1 chs' cur' ∧ allDocs chs' cur' = allDocs chs cur ++ [d] := by
  obtain ⟨hok, hcase⟩ := sg_add_cases hn d g hsim
  rcases hcase with ⟨p, rfl, g'⟩ | ⟨g', _⟩
  · exact ⟨hok, _, _, g', by simp [allDocs, chunkDocs]⟩
  · exact ⟨hok, _, _, g', by cases cur <;> simp [allDocs, chunkDocs]⟩

theorem sim_of_history {d0 : BDoc} {ds pre post : List BDoc} {d : BDoc} (hsim : ∀ d ∈ ds, SimDoc d0 d)
    (hl : d0 :: ds = pre ++ d :: post) : ∀ x ∈ pre, SimDoc x d := by
  have hall : ∀ x ∈ pre ++ d :: post, SimDoc d0 x := hl ▸ List.forall_mem_cons.2 ⟨simDoc_refl _, hsim⟩
  intro x hx
  exact simDoc_of_common (hall x (by simp [hx])) (hall d (by simp))

theorem sg_run (n : Nat) (hn : 1 ≤ n) (d0 : BDoc) (ds : List BDoc) (hsim : ∀ d ∈ ds, SimDoc d0 d) :
    ∃ chs cur, SG n ((d0 :: ds).foldl (fun (c : Streaming) d => (c.add d).1) (Streaming.new n)) chs cur ∧
      allDocs chs cur = d0 :: ds := by
  refine List.foldl_history _ (fun c pre => ∃ chs cur, SG n c chs cur ∧ allDocs chs cur = pre) _ _
    ⟨[], none, sg_new n, rfl⟩ ?_
  rintro c pre d post hl ⟨chs, cur, g, h⟩
  obtain ⟨_, chs', cur', g', h'⟩ := sg_add n hn c chs cur d g fun p hp =>
    sim_of_history hsim hl p.1 (h ▸ mem_allDocs (.inr hp) List.mem_cons_self)
  exact ⟨chs', cur', g', by rw [h', h]⟩

end Ftdc
