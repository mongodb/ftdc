import FtdcVerif.Lemmas.Codec
/-!
The delta stream three ways: the format (`Tok`: non-zero literals and zero-run pairs), the decoder, which reads every
conformant token stream (`decode_toks`), and the encoder, which writes the canonical one
(`encoder_emits_canon`).  The encoder/decoder round trip is their composition.  The format is C03's description of
the stream and keeps C03's names; it stands here, below Props/C03, because C01's payload round trip needs it too.
-/
namespace Ftdc.Props.C03
open Ftdc

inductive Tok where
  | lit (d : I64)        -- a non-zero delta
  | run (k : Nat)        -- the pair (0, k): k+1 zero deltas

def Tok.ok : Tok → Prop
  | .lit d => d ≠ 0#64
  | .run k => k < 2 ^ 64   -- the count is a uvarint, and `readUvarint` (ten bytes, the tenth 0 or 1) reads back no more

def expandTok : Tok → List I64
  | .lit d => [d]
  | .run k => List.replicate (k + 1) 0#64

def expand (ts : List Tok) : List I64 := (ts.map expandTok).flatten

def encTok : Tok → Bytes
  | .lit d => putUvarint d.toNat
  | .run k => putUvarint 0 ++ putUvarint k

def encToks (ts : List Tok) : Bytes := (ts.map encTok).flatten

theorem decode_tok (t : Tok) (ht : t.ok) (rest : Bytes) :
    rleDecAux (expandTok t).length 0 (encTok t ++ rest) = some (expandTok t, 0, rest) := by
  cases t with
  | lit d =>
    have hdn : d.toNat ≠ 0 := fun h => ht (BitVec.eq_of_toNat_eq (by simpa using h))
    simp [expandTok, encTok, rleDecAux, readUvarint_putUvarint d.toNat d.isLt, hdn]
  | run k =>
    simp [expandTok, encTok, rleDecAux, readUvarint_putUvarint 0 (by omega), readUvarint_putUvarint k ht,
      rleDecAux_zeros k k _ (Nat.le_refl _), List.replicate_succ]

theorem decode_toks (ts : List Tok) (rest : Bytes) (hok : ∀ t ∈ ts, t.ok) :
    rleDecAux (expand ts).length 0 (encToks ts ++ rest) = some (expand ts, 0, rest) := by
  induction ts with
  | nil => simp [expand, encToks, rleDecAux]
  | cons t ts ih =>
    obtain ⟨ht, hok⟩ := List.forall_mem_cons.1 hok
    have hexp : expand (t :: ts) = expandTok t ++ expand ts := rfl
    have henc : encToks (t :: ts) ++ rest = encTok t ++ (encToks ts ++ rest) := List.append_assoc ..
    rw [hexp, henc, List.length_append, rleDecAux_append, decode_tok t ht, Option.bind_some, ih hok]
    rfl

/-- the canonical token stream of a delta list: consecutive zeros are one run, however long -/
def canonAux : Nat → List I64 → List Tok
  | zc, [] => if zc > 0 then [.run (zc - 1)] else []
  | zc, d :: ds =>
    if d = 0#64 then canonAux (zc + 1) ds
    else (if zc > 0 then [.run (zc - 1)] else []) ++ .lit d :: canonAux 0 ds

def canon (ds : List I64) : List Tok := canonAux 0 ds

theorem encoder_emits_canon (ds : List I64) (zc : Nat) : rleEncAux zc ds = encToks (canonAux zc ds) := by
  fun_induction canonAux zc ds with
  | case1 zc h | case2 zc h => simp [rleEncAux, h, encToks, encTok]
  | case3 zc ds ih => simpa [rleEncAux] using ih
  | case4 zc d ds hd ih => by_cases h : zc > 0 <;> simp [rleEncAux, hd, h, ih, encToks, encTok, encodeValue]

theorem canonAux_expand (ds : List I64) (zc : Nat) : expand (canonAux zc ds) = List.replicate zc 0#64 ++ ds := by
  fun_induction canonAux zc ds with
  | case1 zc h =>
    obtain ⟨k, rfl⟩ := Nat.exists_eq_add_one_of_ne_zero (Nat.ne_zero_of_lt h)
    simp [expand, expandTok]
  | case2 zc h =>
    obtain rfl := Nat.eq_zero_of_not_pos h
    rfl
  | case3 zc ds ih => rw [ih, List.replicate_succ', List.append_assoc]; rfl
  | case4 zc d ds hd ih =>
    simp only [expand] at ih ⊢
    cases zc <;> simp [expandTok, ih]

theorem canonAux_ok (ds : List I64) (zc : Nat) (h : zc + ds.length < 2 ^ 64) : ∀ t ∈ canonAux zc ds, t.ok := by
  -- a run is written with its count of zeros less one
  have hrun : ∀ k : Nat, k < 2 ^ 64 → (Tok.run (k - 1)).ok := fun k hk => Nat.lt_of_le_of_lt (Nat.sub_le ..) hk
  fun_induction canonAux zc ds with
  | case1 zc _ => exact List.forall_mem_singleton.2 (hrun zc h)
  | case2 => simp
  | case3 zc ds ih => exact ih (by rw [List.length_cons] at h; omega)
  | case4 zc d ds hd ih =>
    rw [List.length_cons] at h
    rw [List.forall_mem_append, List.forall_mem_cons]
    refine ⟨?_, hd, ih (by omega)⟩
    split
    · exact List.forall_mem_singleton.2 (hrun zc (by omega))
    · simp

end Ftdc.Props.C03

namespace Ftdc
open Props.C03

theorem rle_roundtrip (ds : List I64) (rest : Bytes) (h : ds.length < 2 ^ 64) :
    rleDecAux ds.length 0 (rleEnc ds ++ rest) = some (ds, 0, rest) := by
  have := decode_toks (canonAux 0 ds) rest (canonAux_ok ds 0 (by omega))
  rwa [canonAux_expand, ← encoder_emits_canon] at this

end Ftdc
