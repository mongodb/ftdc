import FtdcVerif.Lemmas.HdrRank
/-! `RecordCorrectedValue` (hdr.go): the back-fill loop records exactly the values it stands for. -/
namespace Ftdc.Hdr

theorem correctedValuesFrom_bounds (fuel : Nat) (m ei : Int) (hei : 0 ≤ ei) :
    ∀ y ∈ correctedValuesFrom fuel m ei, ei ≤ y ∧ y ≤ m := by
  fun_induction correctedValuesFrom fuel m ei with
  | case1 => intro y hy; cases hy
  | case2 fuel m ei hm ih =>
    intro y hy
    rcases List.mem_cons.1 hy with rfl | hy
    · exact ⟨hm, Int.le_refl _⟩
    · have := ih hei y hy; omega
  | case3 => intro y hy; cases hy

theorem correctedLoop_spec (fuel : Nat) (h : Hist) (m ei : Int)
    (hacc : ∀ x ∈ correctedValuesFrom fuel m ei, accepts h x = true) :
    correctedLoop fuel h m ei = (recordAll h (correctedValuesFrom fuel m ei), true) := by
  fun_induction correctedLoop fuel h m ei with
  | case1 => rfl
  | case2 fuel h m ei hm hr =>
    -- the loop's error exit: `m` is in the list, so it is accepted
    have := recordValues_isSome h m 1
    rw [show recordValues h m 1 = none from hr, hacc m (by simp [correctedValuesFrom, hm])] at this
    cases this
  | case3 fuel h m ei hm h' hr ih =>
    have hl : correctedValuesFrom (fuel + 1) m ei = m :: correctedValuesFrom fuel (m - ei) ei := by
      simp [correctedValuesFrom, hm]
    rw [hl, recordAll_cons_ok h h' m _ hr]
    exact ih fun x hx => by
      rw [← accepts_congr (recordValues_sameCfg hr)]; exact hacc x (by rw [hl]; exact List.mem_cons_of_mem _ hx)
  | case4 fuel h m ei hm => simp [correctedValuesFrom, hm, recordAll]

theorem recordCorrected_spec {h : Hist} (wf : WF h) (v ei : Int) (hv : accepts h v = true) (h63 : v < 2 ^ 63) :
    recordCorrected h v ei = (recordAll h (correctedValues v ei), true) := by
  obtain ⟨h1, hr⟩ := Option.isSome_iff_exists.mp ((recordValues_isSome h v 1).trans hv)
  have hr : recordValue h v = some h1 := hr
  unfold recordCorrected correctedValues
  simp only [hr]
  rw [recordAll_cons_ok h h1 v _ hr]
  split
  · rfl
  · rename_i hc
    apply correctedLoop_spec
    intro x hx
    -- every value of the list lies in [ei, v - ei] with ei > 0: accepted because v is
    obtain ⟨hx1, hx2⟩ := correctedValuesFrom_bounds _ _ _ (by omega) x hx
    have hva := (accepts_iff wf h63).mp hv
    rw [← accepts_congr (recordValues_sameCfg hr)]
    exact (accepts_iff wf (by omega)).mpr ⟨by omega, Nat.lt_of_le_of_lt (Int.toNat_le_toNat (by omega)) hva.2⟩

end Ftdc.Hdr
