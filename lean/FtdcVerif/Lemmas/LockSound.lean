import FtdcVerif.Model.LockSkeleton
/-! The lock-discipline checker `exec` is a one-pass abstract interpreter.  `Run` is an independent path semantics of
skeletons (a branch runs exactly one alternative, a loop body any number of times, a `return` leaves the function), and
`exec_sound` says that the outcome of every path is one the checker's verdict allows (`Agrees`). -/
namespace Ftdc.LockSkeleton

/-- how one path leaves a piece of code -/
inductive Out where
  | fell (s : LState)       -- control falls through in this lock state
  | returned (s : LState)   -- a `return` was executed in this lock state
  | stuck                   -- an unlock of a mutex that is not held
  deriving DecidableEq, Repr

def Out.isFell : Out → Bool
  | .fell _ => true
  | _ => false

/-- `n` iterations of a loop body with path relation `R`, then exit (or leave from inside) -/
def iter (R : LState → Out → Prop) : Nat → LState → Out → Prop
  | 0, s, o => o = .fell s
  | n + 1, s, o => (∃ s', R s (.fell s') ∧ iter R n s' o) ∨ (R s o ∧ o.isFell = false)

mutual
def Run : Sk → LState → Out → Prop
  | .lock, (d, f), o => o = .fell (d + 1, f)
  | .unlock, (d, f), o => if d = 0 then o = .stuck else o = .fell (d - 1, f)
  | .deferUnlock, (d, f), o => o = .fell (d, f + 1)
  | .ret, s, o => o = .returned s
  | .seq l, s, o => RunSeq l s o
  | .branch l, s, o => RunAlt l s o
  | .loop l, s, o => ∃ n, iter (fun s o => RunSeq l s o) n s o
def RunSeq : SkList → LState → Out → Prop
  | .nil, s, o => o = .fell s
  | .cons h t, s, o => (∃ s', Run h s (.fell s') ∧ RunSeq t s' o) ∨ (Run h s o ∧ o.isFell = false)
def RunAlt : SkList → LState → Out → Prop
  | .nil, _, _ => False
  | .cons h t, s, o => Run h s o ∨ RunAlt t s o
end

/-- what the checker's verdict `r` promises about a path outcome `o` -/
def Agrees (r : Res) (o : Out) : Prop :=
  match r, o with
  | .bad, _ => True                      -- no promise
  | _, .stuck => False
  | _, .returned x => retOk x = true
  | .fall a, .fell b => a = b
  | .returns, .fell _ => False

theorem agrees_bad (o : Out) : Agrees .bad o := by simp [Agrees]

theorem Agrees.fell {r : Res} {b : LState} (h : Agrees r (.fell b)) : r = .bad ∨ r = .fall b := by
  cases r <;> simp_all [Agrees]

/-- An outcome that does not fall through (`stuck`, `returned`) is promised the same by every verdict but `bad`. -/
theorem Agrees.escape {r : Res} {o : Out} (h : Agrees r o) (ho : o.isFell = false) (r' : Res) :
    r = .bad ∨ Agrees r' o := by
  cases r <;> cases o <;> cases r' <;> simp_all [Agrees, Out.isFell]

/-- `returns` promises the most: no path falls through -/
theorem Agrees.of_returns {o : Out} (h : Agrees .returns o) (r : Res) : Agrees r o := by
  cases o <;> cases r <;> simp_all [Agrees]

theorem agrees_join_left {a b : Res} {o : Out} (h : Agrees a o) : Agrees (a.join b) o := by
  cases a with
  | bad => exact agrees_bad o
  | returns => exact h.of_returns _
  | fall s =>
    cases b with
    | bad => exact agrees_bad o
    | returns => exact h
    | fall t =>
      simp only [Res.join]
      split
      · exact h
      · exact agrees_bad o

theorem join_comm (a b : Res) : a.join b = b.join a := by
  cases a <;> cases b <;> simp only [Res.join] <;> split <;> simp_all [eq_comm]

theorem agrees_join_right {a b : Res} {o : Out} (h : Agrees b o) : Agrees (a.join b) o :=
  join_comm a b ▸ agrees_join_left h

/-- A loop whose body, run from `s`, never falls through in another state leaves `s` unchanged on every path that
falls out of it: every iteration starts in `s`. -/
theorem iter_sound {R : LState → Out → Prop} {s : LState} (hR : ∀ o, R s o → Agrees (.fall s) o) :
    ∀ (n : Nat) (o : Out), iter R n s o → Agrees (.fall s) o := by
  intro n
  induction n with
  | zero => rintro _ rfl; rfl
  | succ n ih =>
    rintro o (⟨s', h1, h2⟩ | ⟨h1, -⟩)
    · exact ih o ((hR _ h1 : s = s') ▸ h2)
    · exact hR o h1

/-! `Run` and `exec` compute on a constructor, so the one path of an atom is an equation (the pattern `rfl`), and `seq` and
`branch` are the statements about their lists. -/
mutual
theorem exec_sound : (k : Sk) → ∀ (s : LState) (o : Out), Run k s o → Agrees (exec k s) o
  | .lock, (d, f), _, rfl => rfl
  | .unlock, (d, f), o, h => by
    simp only [Run] at h
    simp only [exec]
    split
    · exact agrees_bad o
    · rw [if_neg ‹_›] at h; rw [h]; rfl
  | .deferUnlock, (d, f), _, rfl => rfl
  | .ret, s, _, rfl => by
    simp only [exec]
    split
    · assumption
    · exact agrees_bad _
  | .seq l, s, o, h => execSeq_sound l s o h
  | .branch l, s, o, h => execAlt_sound l s o h
  | .loop l, s, o, ⟨n, hn⟩ => by
    have body := fun o h => execSeq_sound l s o h
    simp only [exec]
    split
    next s' hb =>
      split
      next hs => exact iter_sound (fun o h => hs ▸ hb ▸ body o h) n o hn
      next => exact agrees_bad o
    next hb => exact iter_sound (fun o h => (hb ▸ body o h).of_returns _) n o hn
    next => exact agrees_bad o
theorem execSeq_sound : (l : SkList) → ∀ (s : LState) (o : Out), RunSeq l s o → Agrees (execSeq l s) o
  | .nil, s, _, rfl => rfl
  | .cons k t, s, o, h => by
    simp only [RunSeq] at h
    simp only [execSeq]
    rcases h with ⟨s', h1, h2⟩ | ⟨h1, h2⟩
    · rcases (exec_sound k s _ h1).fell with hk | hk <;> rw [hk]
      · exact agrees_bad o
      · exact execSeq_sound t s' o h2
    · -- the path leaves inside `k`: whatever verdict the `match` on `exec k s` yields takes the place of `r'`
      refine ((exec_sound k s o h1).escape h2 _).elim (fun hk => ?_) id
      rw [hk]; exact agrees_bad o
theorem execAlt_sound : (l : SkList) → ∀ (s : LState) (o : Out), RunAlt l s o → Agrees (execAlt l s) o
  | .nil, _, _, h => h.elim
  | .cons k t, s, o, h =>
    h.elim (fun h => agrees_join_left (exec_sound k s o h)) fun h => agrees_join_right (execAlt_sound t s o h)
end

/-- Soundness of `balanced`: a skeleton the checker accepts has no path — whichever
alternatives are taken, however often the loops run — that unlocks a mutex it does not hold,
returns with the mutex held, or falls off the end of the function with it held. -/
theorem balanced_sound (k : Sk) (h : balanced k = true) (o : Out) (hr : Run k (0, 0) o) :
    match o with
    | .stuck => False
    | .returned s => retOk s = true
    | .fell s => retOk s = true := by
  have a := exec_sound k (0, 0) o hr
  unfold balanced at h
  generalize exec k (0, 0) = r at a h
  cases r <;> cases o <;> simp_all [Agrees]

end Ftdc.LockSkeleton
