import FtdcVerif.Lemmas.Hdr

/-!
# Order statistics of the HDR histogram (C13)

The counts array is the multiplicity function of the recorded values under the index map
(`Holds g A`: `g` holds exactly the values `A`); the index map is monotone (`idx_mono`); the iterator
reports the positions of the indices `0, 1, …` in order, up to where the running total reaches the
total (`iter_eq`, and `iter_nz` for the non-empty ones).  Hence the value at rank `r` is the
representative of the `r`-th smallest recorded value; `Max`, `Min`, `Mean` and `Merge`
(`HdrMinMax`, `HdrMean`, `HdrMergeX`) are read off the same list.
-/
namespace Ftdc.Hdr

/-! ### the capacity, the index map and the positions -/

/-- capacity of the counts array, as a value bound: every `v < cap h` has an in-range index -/
def cap (h : Hist) : Nat := 2 ^ (h.halfMag + h.unitMag + h.bucketCount)

/-- `cap h - 1` is the largest value that has an in-range index -/
def capH (h : Hist) : Hist := { h with highest := cap h - 1 }

theorem capH_wf {h : Hist} (wf : WF h) : WF (capH h) :=
  { wf with covers := Nat.sub_one_lt (Nat.ne_of_gt (Nat.two_pow_pos _)) }

theorem highest_lt_cap {h : Hist} (wf : WF h) : h.highest < cap h := wf.covers

section
variable {h : Hist} (wf : WF h)
include wf

theorem cap_le : cap h ≤ 2 ^ 63 := Nat.pow_le_pow_right (by omega) wf.bits

theorem lt64_of_lt_cap {v : Nat} (hv : v < cap h) : v < 2 ^ 64 := by
  have := cap_le wf; omega

/-! `value_in_range'` and `width_bound'` are the clauses of C12 (`value_in_range`, `width_bound` in Lemmas/Hdr) for every
value below the capacity instead of `≤ highest`. -/

theorem value_in_range' {v : Nat} (hv : v < cap h) : lowestEquiv h v ≤ v ∧ v ≤ highestEquiv h v :=
  equiv_range wf (lt64_of_lt_cap wf hv)

theorem width_bound' {v : Nat} (hv : v < cap h) :
    sizeOfRange h v = 2 ^ h.unitMag ∨ sizeOfRange h v * 10 ^ h.sigfigs ≤ v :=
  size_bound wf (lt64_of_lt_cap wf hv)

theorem size_pos' {v : Nat} (hv : v < cap h) : 0 < sizeOfRange h v := by
  rw [size_eq wf (lt64_of_lt_cap wf hv)]; exact Nat.two_pow_pos _

/-- the precision clauses of C13: either end of the range of `x` is within max(unit, `x·10^-sigfigs`) of `x` -/
theorem range_precision {x : Nat} (hx : x < cap h) :
    (highestEquiv h x < x + 2 ^ h.unitMag ∨ (highestEquiv h x + 1 - x) * 10 ^ h.sigfigs ≤ x) ∧
    (x < lowestEquiv h x + 2 ^ h.unitMag ∨ (x + 1 - lowestEquiv h x) * 10 ^ h.sigfigs ≤ x) := by
  have hr := value_in_range' wf hx
  have he := highestEquiv_add_one (h := h) x
  have hw : ∀ d, d ≤ sizeOfRange h x → sizeOfRange h x = 2 ^ h.unitMag ∨ d * 10 ^ h.sigfigs ≤ x := fun d hd =>
    (width_bound' wf hx).imp_right (Nat.le_trans (Nat.mul_le_mul_right _ hd))
  -- as variables: `omega` tests its atoms for definitional equality, which would unfold `highestEquiv` down to `bitLen`
  generalize highestEquiv h x = hi, lowestEquiv h x = lo, sizeOfRange h x = sz at *
  exact ⟨(hw _ (by omega)).imp_left (by omega), (hw _ (by omega)).imp_left (by omega)⟩

theorem median_half_range {x : Nat} (hx : x < cap h) :
    medianEquiv h x ≤ x + sizeOfRange h x / 2 ∧ x ≤ medianEquiv h x + sizeOfRange h x / 2 := by
  have hr := value_in_range' wf hx
  have he := highestEquiv_add_one (h := h) x
  unfold medianEquiv
  rw [Nat.shiftRight_eq_div_pow, Nat.pow_one]
  refine ⟨Nat.add_le_add_right hr.1 _, ?_⟩
  -- atoms as variables, as in `range_precision`
  generalize highestEquiv h x = hi, lowestEquiv h x = lo, sizeOfRange h x = sz at *
  omega

def idx (h : Hist) (v : Nat) : Nat :=
  getBucketIndex h v * 2 ^ h.halfMag + getSubBucketIdx h v (getBucketIndex h v)

theorem idx_mono {v w : Nat} (hvw : v ≤ w) (hw : w < cap h) : idx h v ≤ idx h w := by
  have hv : v < cap h := Nat.lt_of_le_of_lt hvw hw
  have hv64 := lt64_of_lt_cap wf hv
  have hw64 := lt64_of_lt_cap wf hw
  have hb : getBucketIndex h v ≤ getBucketIndex h w := by
    rw [bucket_eq wf hv64, bucket_eq wf hw64]
    exact Nat.sub_le_sub_right (blen_mono hvw) _
  unfold idx
  rcases Nat.eq_or_lt_of_le hb with e | hlt
  · rw [e]
    exact Nat.add_le_add_left (by
      unfold getSubBucketIdx
      rw [Nat.shiftRight_eq_div_pow, Nat.shiftRight_eq_div_pow]
      exact Nat.div_le_div_right hvw) _
  · have s1 := subBucket_lt wf hv64
    rw [Nat.pow_succ] at s1
    exact Nat.le_of_lt (index_lt_of_bucket_lt hlt s1 (subBucket_ge wf hw64))

theorem lt_of_idx_lt {v w : Nat} (hv : v < cap h) (hlt : idx h v < idx h w) : v < w :=
  Nat.lt_of_not_le fun hwv => Nat.not_le.2 hlt (idx_mono wf hwv hv)

/-- valid (bucket, sub-bucket) pairs: the positions the iterator visits -/
def ValidPos (h : Hist) (b s : Nat) : Prop :=
  b < h.bucketCount ∧ s < 2 ^ (h.halfMag + 1) ∧ (1 ≤ b → 2 ^ h.halfMag ≤ s)

theorem validPos_of {v : Nat} (hv : v < cap h) :
    ValidPos h (getBucketIndex h v) (getSubBucketIdx h v (getBucketIndex h v)) :=
  ⟨(bucket_lt_iff wf (lt64_of_lt_cap wf hv)).2 hv, subBucket_lt wf (lt64_of_lt_cap wf hv), subBucket_ge wf (lt64_of_lt_cap wf hv)⟩

/-- every value in `[s·P, (s+1)·P)`, `P = 2^(b+unit)`, of a valid position lies below the capacity
and has exactly that position -/
theorem pos_of_range {b s x : Nat} (vp : ValidPos h b s)
    (lo : s * 2 ^ (b + h.unitMag) ≤ x) (hi : x < (s + 1) * 2 ^ (b + h.unitMag)) :
    x < cap h ∧ getBucketIndex h x = b ∧ getSubBucketIdx h x b = s := by
  obtain ⟨hb, hs, hge⟩ := vp
  have hlt : x < 2 ^ (h.halfMag + 1 + (b + h.unitMag)) := by
    rw [Nat.pow_add]
    exact Nat.lt_of_lt_of_le hi (Nat.mul_le_mul_right _ hs)
  have hcap : x < cap h :=
    Nat.lt_of_lt_of_le hlt (Nat.pow_le_pow_right (by omega) (by omega))
  refine ⟨hcap, ?_, ?_⟩
  · exact (bucket_iff wf (lt64_of_lt_cap wf hcap)).2 ⟨blen_le_iff.2 hlt, fun hpos =>
      lt_blen_iff.2 (by rw [Nat.pow_add]; exact Nat.le_trans (Nat.mul_le_mul_right _ (hge hpos)) lo)⟩
  · unfold getSubBucketIdx
    rw [Nat.shiftRight_eq_div_pow]
    exact Nat.div_eq_of_lt_le lo hi

omit wf in
theorem valueFromIndex_eq (b s : Nat) : valueFromIndex h b s = s * 2 ^ (b + h.unitMag) := by
  simp [valueFromIndex, Nat.shiftLeft_eq]

theorem valueFromIndex_lt_cap {b s : Nat} (hb : b < h.bucketCount) (hs : s < h.subCount) :
    valueFromIndex h b s < cap h := by
  rw [valueFromIndex_eq, cap]
  rw [wf.subCount_eq] at hs
  have h1 : s * 2 ^ (b + h.unitMag) < 2 ^ (h.halfMag + 1) * 2 ^ (b + h.unitMag) :=
    Nat.mul_lt_mul_of_pos_right hs (Nat.two_pow_pos _)
  rw [← Nat.pow_add] at h1
  exact Nat.lt_of_lt_of_le h1 (Nat.pow_le_pow_right (by omega) (by omega))

theorem repr_pos {b s : Nat} (vp : ValidPos h b s) :
    valueFromIndex h b s < cap h ∧ getBucketIndex h (valueFromIndex h b s) = b ∧
    getSubBucketIdx h (valueFromIndex h b s) b = s := by
  rw [valueFromIndex_eq]
  exact pos_of_range wf vp (Nat.le_refl _) (Nat.mul_lt_mul_of_pos_right (Nat.lt_succ_self s) (Nat.two_pow_pos _))

omit wf in
theorem pos_unique {b s b' s' : Nat} (v1 : ValidPos h b s) (v2 : ValidPos h b' s')
    (e : b * 2 ^ h.halfMag + s = b' * 2 ^ h.halfMag + s') : b = b' ∧ s = s' := by
  obtain ⟨_, hs, hge⟩ := v1
  obtain ⟨_, hs', hge'⟩ := v2
  rw [Nat.pow_succ] at hs hs'
  rcases Nat.lt_trichotomy b b' with hlt | heq | hgt
  · exact absurd e (Nat.ne_of_lt (index_lt_of_bucket_lt hlt hs hge'))
  · subst heq; exact ⟨rfl, Nat.add_left_cancel e⟩
  · exact absurd e.symm (Nat.ne_of_lt (index_lt_of_bucket_lt hgt hs' hge))

/-- the highest equivalent value is a function of the position -/
def hiOf (h : Hist) (b s : Nat) : Nat :=
  valueFromIndex h b s + (1 <<< (h.unitMag + (if s ≥ h.subCount then b + 1 else b))) - 1

omit wf in
theorem highestEquiv_eq (v : Nat) :
    highestEquiv h v = hiOf h (getBucketIndex h v) (getSubBucketIdx h v (getBucketIndex h v)) := rfl

theorem highestEquiv_of_idx {v w : Nat} (hv : v < cap h) (hw : w < cap h) (e : idx h v = idx h w) :
    highestEquiv h v = highestEquiv h w := by
  obtain ⟨e1, e2⟩ := pos_unique (validPos_of wf hv) (validPos_of wf hw) e
  rw [highestEquiv_eq, highestEquiv_eq, e1] at *
  rw [← e1, e2]

theorem highestEquiv_repr {b s : Nat} (vp : ValidPos h b s) :
    highestEquiv h (valueFromIndex h b s) = hiOf h b s := by
  obtain ⟨_, e1, e2⟩ := repr_pos wf vp
  rw [highestEquiv_eq, e1, e2]

omit wf in
theorem hiOf_eq {b s : Nat} (hs : s < h.subCount) :
    hiOf h b s = (s + 1) * 2 ^ (b + h.unitMag) - 1 := by
  unfold hiOf
  rw [if_neg (by omega), valueFromIndex_eq, Nat.shiftLeft_eq, Nat.one_mul, Nat.add_mul, Nat.one_mul,
    Nat.add_comm h.unitMag b]

theorem hi_pos {b s : Nat} (vp : ValidPos h b s) :
    hiOf h b s < cap h ∧ getBucketIndex h (hiOf h b s) = b ∧ getSubBucketIdx h (hiOf h b s) b = s := by
  have hp : 0 < 2 ^ (b + h.unitMag) := Nat.two_pow_pos _
  have hs : s < h.subCount := by rw [wf.subCount_eq]; exact vp.2.1
  rw [hiOf_eq hs]
  -- `(s + 1)·P - 1` lies in `[s·P, (s + 1)·P)`
  exact pos_of_range wf vp (Nat.le_sub_one_of_lt (Nat.mul_lt_mul_of_pos_right (Nat.lt_succ_self s) hp))
    (Nat.sub_one_lt (Nat.ne_of_gt (Nat.mul_pos (Nat.succ_pos s) hp)))

theorem idx_highestEquiv {v : Nat} (hv : v < cap h) :
    highestEquiv h v < cap h ∧ idx h (highestEquiv h v) = idx h v := by
  obtain ⟨c, e1, e2⟩ := hi_pos wf (validPos_of wf hv)
  rw [← highestEquiv_eq] at c e1 e2
  refine ⟨c, ?_⟩
  unfold idx
  rw [e1, e2]

theorem highestEquiv_mono {v w : Nat} (hvw : v ≤ w) (hw : w < cap h) :
    highestEquiv h v ≤ highestEquiv h w := by
  have hv : v < cap h := Nat.lt_of_le_of_lt hvw hw
  rcases Nat.lt_or_ge (idx h v) (idx h w) with hlt | hge
  · -- `highestEquiv h v` has the index of `v`, so it lies below `w`
    obtain ⟨c, e⟩ := idx_highestEquiv wf hv
    have hh : highestEquiv h v < w := lt_of_idx_lt wf c (Nat.lt_of_le_of_lt (Nat.le_of_eq e) hlt)
    exact Nat.le_trans (Nat.le_of_lt hh) (value_in_range' wf hw).2
  · exact Nat.le_of_eq (highestEquiv_of_idx wf hv hw (Nat.le_antisymm (idx_mono wf hvw hw) hge))

end

theorem cix_eq_idx {h : Hist} (wf : WF h) (v : Int) : cix h v = idx h v.toNat := by
  unfold cix idx; rw [countsIndexFor_eq wf]; exact Int.toNat_natCast _

theorem idx_lt_countsLen {h : Hist} (wf : WF h) {v : Nat} (hv : v < cap h) : idx h v < h.countsLen :=
  (index_lt_iff wf (lt64_of_lt_cap wf hv)).2 hv

/-- an `int64` value is accepted iff it lies below the capacity of the counts array
(which may exceed the nominal highest trackable value) -/
theorem accepts_iff {h : Hist} (wf : WF h) {v : Int} (h63 : v < 2 ^ 63) :
    accepts h v = true ↔ 0 ≤ v ∧ v.toNat < cap h := by
  by_cases h0 : 0 ≤ v
  · simp only [accepts, Bool.and_eq_true, decide_eq_true_eq, countsIndexFor_eq wf, h0, true_and,
      Int.natCast_nonneg, Int.ofNat_lt]
    exact index_lt_iff wf (show v.toNat < 2 ^ 64 by omega)
  · simp [accepts, h0]

/-! ### the counts array is the multiplicity function of the accepted values -/

theorem cnts_length (h : Hist) (vs : List Int) (c : List Int) : (cnts h c vs).length = c.length :=
  addAll_length (accepts h) (cix h) (fun _ => 1) c vs

theorem cnts_getD (h : Hist) (vs : List Int) (i : Nat) : ∀ c, c.length = h.countsLen →
    (cnts h c vs).getD i 0 = c.getD i 0 + ((vs.countP fun v => accepts h v && cix h v == i : Nat) : Int) := by
  intro c hc
  rw [← sum_ite_one]
  exact addAll_getD (accepts h) (cix h) (fun _ => 1) vs i c fun v _ ha => hc ▸ accepts_cix_lt ha

theorem cnts_replicate_getD (h : Hist) (vs : List Int) (i : Nat) :
    (cnts h (List.replicate h.countsLen 0) vs).getD i 0 =
      ((vs.countP fun v => accepts h v && cix h v == i : Nat) : Int) := by
  rw [cnts_getD h vs i _ (by simp), List.getD_eq_getElem?_getD, List.getElem?_replicate]
  split <;> simp

theorem pre_cnts (h : Hist) (vs : List Int) (k : Nat) :
    pre (cnts h (List.replicate h.countsLen 0) vs) k =
      ((vs.countP fun v => accepts h v && decide (cix h v < k) : Nat) : Int) := by
  have hf : ∀ q : Int → Bool, ((vs.filter (accepts h)).countP q) = vs.countP fun v => accepts h v && q v := by
    intro q; rw [List.countP_filter]; congr 1; funext v; rw [Bool.and_comm]
  rw [pre_eq_countP _ (vs.filter (accepts h)) (cix h) (fun i => by rw [cnts_replicate_getD, hf]), hf]

theorem recordAll_fresh {h0 : Hist} (hc : h0.counts = List.replicate h0.countsLen 0) (ht : h0.total = 0) (us : List Int) :
    Inv (recordAll h0 us) ∧ NonNeg (recordAll h0 us) ∧
    (∀ i, (recordAll h0 us).counts.getD i 0 = ((us.countP fun v => accepts h0 v && cix h0 v == i : Nat) : Int)) ∧
    (recordAll h0 us).total = ((us.filter (accepts h0)).length : Int) := by
  refine ⟨(recordAll_spec us h0 ⟨by rw [hc]; simp, by rw [hc, ht]; simp⟩).1,
    recordAll_nonneg us h0 (by intro c hcm; rw [hc] at hcm; simp at hcm; omega), fun i => ?_, ?_⟩
  · rw [recordAll_eq_cnts, hc]; exact cnts_replicate_getD h0 us i
  · rw [recordAll_eq_cnts, ht]; exact Int.zero_add _

/-! ### a histogram that holds a multiset of values -/

def accepted (h : Hist) (vs : List Int) : List Nat := (vs.filter (accepts h)).map Int.toNat

theorem countP_accepted (h : Hist) (vs : List Int) (q : Nat → Bool) :
    (vs.countP fun v => accepts h v && q v.toNat) = (accepted h vs).countP q := by
  unfold accepted
  rw [List.countP_map, List.countP_filter]
  congr 1; funext v; simp [Bool.and_comm]

theorem mem_accepted {h : Hist} (wf : WF h) {vs : List Int} (h63 : ∀ v ∈ vs, v < 2 ^ 63) {a : Nat}
    (ha : a ∈ accepted h vs) : a < cap h := by
  obtain ⟨v, hv, rfl⟩ := List.mem_map.1 ha
  obtain ⟨hm, hacc⟩ := List.mem_filter.1 hv
  exact ((accepts_iff wf (h63 v hm)).1 hacc).2

/-- `g` holds exactly the values `A` (each below the capacity): entry `k` of the counts array is the
number of `a ∈ A` with index `k` -/
structure Holds (g : Hist) (A : List Nat) : Prop where
  wf : WF g
  inv : Inv g
  nonneg : NonNeg g
  total : g.total = (A.length : Int)
  lt_cap : ∀ a ∈ A, a < cap g
  cnt : ∀ k, g.counts.getD k 0 = ((A.countP fun a => idx g a == k : Nat) : Int)

theorem holds_recordAll {h0 : Hist} (wf : WF h0) (hc : h0.counts = List.replicate h0.countsLen 0)
    (ht : h0.total = 0) (vs : List Int) (h63 : ∀ v ∈ vs, v < 2 ^ 63) :
    Holds (recordAll h0 vs) (accepted h0 vs) := by
  obtain ⟨inv, nn, _, _⟩ := recordAll_fresh hc ht vs
  rw [recordAll_eq_cnts] at inv nn ⊢
  exact
  { wf := wf_with wf _ _, inv := inv, nonneg := nn,
    total := by show h0.total + _ = _; rw [ht]; simp [accepted]
    lt_cap := fun a ha => mem_accepted wf h63 ha
    cnt := fun k => by
      rw [hc, cnts_replicate_getD, ← countP_accepted]
      congr 2; funext v; rw [cix_eq_idx wf]; rfl }

section
variable {g : Hist} {A : List Nat} (H : Holds g A)
include H

theorem Holds.nz_iff (k : Nat) : g.counts.getD k 0 ≠ 0 ↔ ∃ a ∈ A, idx g a = k := by
  have : 0 < (A.countP fun a => idx g a == k) ↔ ∃ a ∈ A, idx g a = k := by
    rw [List.countP_pos_iff]; simp
  rw [H.cnt k, ← this]; omega

theorem Holds.idx_lt {a : Nat} (ha : a ∈ A) : idx g a < g.countsLen := idx_lt_countsLen H.wf (H.lt_cap a ha)

end

/-! ### the position at a counts index -/

/-- bucket and sub-bucket of counts index `j`: the inverse of `(b, s) ↦ b * 2^halfMag + s` on valid positions -/
def bOf (g : Hist) (j : Nat) : Nat := j / 2 ^ g.halfMag - 1
def sOf (g : Hist) (j : Nat) : Nat := j - bOf g j * 2 ^ g.halfMag

theorem validPos_bOf_sOf {g : Hist} (wf : WF g) {j : Nat} (hj : j < g.countsLen) :
    ValidPos g (bOf g j) (sOf g j) ∧ bOf g j * 2 ^ g.halfMag + sOf g j = j := by
  have hp : 0 < 2 ^ g.halfMag := Nat.two_pow_pos _
  have hbp := wf.bucket_pos
  rw [wf.countsLen_eq] at hj
  have hq : j / 2 ^ g.halfMag ≤ g.bucketCount := Nat.le_of_lt_succ ((Nat.div_lt_iff_lt_mul hp).2 hj)
  have hdm := Nat.div_add_mod j (2 ^ g.halfMag)
  have hm := Nat.mod_lt j hp
  unfold ValidPos sOf bOf
  rw [Nat.pow_succ]
  generalize 2 ^ g.halfMag = H at *
  generalize j / H = q at *
  clear hj
  -- quotient `q ≤ 1`: bucket 0, sub-bucket `j`; otherwise bucket `q - 1`, sub-bucket `j % H + H`
  match q with
  | 0 | 1 =>
    simp only [Nat.zero_sub, Nat.sub_self, Nat.zero_mul, Nat.sub_zero, Nat.zero_add, and_true]
    omega
  | q + 2 =>
    rw [Nat.mul_add, Nat.mul_comm] at hdm
    rw [Nat.add_sub_cancel_right (n := q + 1) (m := 1), Nat.add_mul, Nat.one_mul]
    omega

/-- the position the iterator reports at index `j` -/
def posAt (g : Hist) (j : Nat) : IterPos :=
  { b := bOf g j, s := sOf g j, countAt := g.counts.getD j 0, countTo := pre g.counts (j + 1),
    valueFrom := valueFromIndex g (bOf g j) (sOf g j),
    highest := highestEquiv g (valueFromIndex g (bOf g j) (sOf g j)) }

theorem repr_of_idx {g : Hist} (wf : WF g) {x : Nat} (hx : x < cap g) {b s : Nat} (vp : ValidPos g b s)
    (e : b * 2 ^ g.halfMag + s = idx g x) :
    valueFromIndex g b s = lowestEquiv g x ∧ highestEquiv g (valueFromIndex g b s) = highestEquiv g x := by
  obtain ⟨rfl, rfl⟩ := pos_unique vp (validPos_of wf hx) e
  exact ⟨rfl, highestEquiv_repr wf (validPos_of wf hx)⟩

theorem posAt_idx_valueFrom {g : Hist} (wf : WF g) {x : Nat} (hx : x < cap g) :
    (posAt g (idx g x)).valueFrom = lowestEquiv g x := by
  obtain ⟨vp, e⟩ := validPos_bOf_sOf wf (idx_lt_countsLen wf hx)
  exact (repr_of_idx wf hx vp e).1

theorem sum_positions_weighted {g : Hist} (wf : WF g) {A : List Nat} (hA : ∀ a ∈ A, a < cap g)
    (hcnt : ∀ k, g.counts.getD k 0 = ((A.countP fun a => idx g a == k : Nat) : Int)) (F : Nat → Int)
    (n j : Nat) (h : ∀ a ∈ A, idx g a < j + n) :
    ((((List.range' j n).filter fun k => decide (g.counts.getD k 0 ≠ 0)).map (posAt g)).map
        fun p => p.countAt * F p.valueFrom).sum =
      (A.map fun a => if j ≤ idx g a then F (lowestEquiv g a) else 0).sum := by
  rw [List.map_map]
  show ((_ : List Nat).map fun k => g.counts.getD k 0 * F (posAt g k).valueFrom).sum = _
  rw [sum_filter_nz, sum_counts_range' _ A (idx g) hcnt (fun k => F (posAt g k).valueFrom) n j h]
  refine congrArg List.sum (List.map_congr_left fun a ha => ?_)
  rw [posAt_idx_valueFrom wf (hA a ha)]

theorem accepts_posAt {g : Hist} (wf : WF g) {k : Nat} (hk : k < g.countsLen) :
    accepts g (posAt g k).valueFrom = true ∧ cix g (posAt g k).valueFrom = k := by
  obtain ⟨vp, e⟩ := validPos_bOf_sOf wf hk
  obtain ⟨hc, e1, e2⟩ := repr_pos wf vp
  have h63 := cap_le wf
  refine ⟨(accepts_iff wf (by show ((valueFromIndex g (bOf g k) (sOf g k) : Nat) : Int) < 2 ^ 63; omega)).2
    ⟨Int.natCast_nonneg _, by rw [Int.toNat_natCast]; exact hc⟩, ?_⟩
  rw [cix_eq_idx wf, Int.toNat_natCast]
  show idx g (valueFromIndex g (bOf g k) (sOf g k)) = k
  unfold idx
  rw [e1, e2, e]

/-! ### the iterator visits the indices in increasing order -/

/-- iterator state `(b, s)` just before visiting index `j` (`H` = half the sub-bucket count).  `s` is an `Int` and
starts at `-1`, as `subBucketIdx` does in hdr.go's iterator: the first `next` moves to sub-bucket 0. -/
structure St (H : Nat) (b : Nat) (s : Int) (j : Nat) : Prop where
  ix : (b : Int) * (H : Int) + s + 1 = (j : Int)
  lo : -1 ≤ s
  hi : s < (H : Int) * 2
  up : 1 ≤ b → (H : Int) ≤ s

theorem st_init (H : Nat) (hpos : 0 < H) : St H 0 (-1) 0 :=
  ⟨by simp, by omega, by omega, by intro h; omega⟩

theorem st_start (g : Hist) : St (2 ^ g.halfMag) 0 (-1) 0 := st_init _ (Nat.two_pow_pos _)

/-- the new `(b, s.toNat)` is the position of index `j`, in the shape `pos_unique` wants (`ValidPos` less the bucket
bound), and the new state is `St … (j + 1)` -/
theorem st_step {H : Nat} (hpos : 0 < H) {b : Nat} {s : Int} {j : Nat} (st : St H b s j) :
    let bs := if s + 1 ≥ ((H * 2 : Nat) : Int) then (b + 1, (H : Int)) else (b, s + 1)
    0 ≤ bs.2 ∧ (bs.1 * H + bs.2.toNat = j) ∧ bs.2.toNat < H * 2 ∧
    (1 ≤ bs.1 → H ≤ bs.2.toNat) ∧ St H bs.1 bs.2 (j + 1) := by
  have h2 : H < H * 2 := by omega
  obtain ⟨ix, lo, hi, up⟩ := st
  intro bs
  by_cases hc : s + 1 ≥ ((H * 2 : Nat) : Int)
  · -- the sub-bucket index wraps to the upper half of the next bucket
    have e : bs = (b + 1, (H : Int)) := if_pos hc
    have hmul : ((b + 1 : Nat) : Int) * (H : Int) = (b : Int) * H + H := by
      push_cast; rw [Int.add_mul, Int.one_mul]
    rw [e]
    dsimp only
    rw [Int.toNat_natCast, Nat.add_mul, Nat.one_mul]
    exact ⟨Int.natCast_nonneg _, by omega, h2, fun _ => Nat.le_refl _,
      by omega, Int.le_trans (by decide) (Int.natCast_nonneg _), by omega, fun _ => Int.le_refl _⟩
  · have e : bs = (b, s + 1) := if_neg hc
    rw [e]
    dsimp only
    exact ⟨by omega, by omega, by omega, fun hb => by have := up hb; omega, by omega, by omega, by omega,
      fun hb => by have := up hb; omega⟩

theorem iterFrom_succ {g : Hist} (wf : WF g) {b : Nat} {s : Int} {j : Nat} (st : St (2 ^ g.halfMag) b s j)
    (fuel : Nat) :
    ∃ b1 s1, St (2 ^ g.halfMag) b1 s1 (j + 1) ∧
      iterFrom (fuel + 1) g b s (pre g.counts j) =
        if pre g.counts j < g.total ∧ j < g.countsLen then
          posAt g j :: iterFrom fuel g b1 s1 (pre g.counts (j + 1))
        else [] := by
  obtain ⟨h0, hix, hs2, hup, st'⟩ := st_step (Nat.two_pow_pos _) st
  rw [iterFrom]
  dsimp only
  rw [wf.subCount_eq, wf.halfCount_eq, show (2 : Nat) ^ (g.halfMag + 1) = 2 ^ g.halfMag * 2 from Nat.pow_succ ..]
  generalize (if s + 1 ≥ ((2 ^ g.halfMag * 2 : Nat) : Int) then (b + 1, ((2 ^ g.halfMag : Nat) : Int)) else (b, s + 1)) = bs at *
  obtain ⟨b1, s1⟩ := bs
  refine ⟨b1, s1, st', ?_⟩
  have hbj : b1 < g.bucketCount ↔ j < g.countsLen := by
    rw [wf.countsLen_eq, ← hix]; exact (pos_index_lt_iff hs2 hup wf.bucket_pos).symm
  by_cases hstop : pre g.counts j ≥ g.total
  · rw [if_pos hstop, if_neg fun h => Int.not_lt.2 hstop h.1]
  · rw [if_neg hstop]
    by_cases hj : j < g.countsLen
    · rw [if_neg (Nat.not_le.2 (hbj.2 hj)), if_pos ⟨Int.not_le.1 hstop, hj⟩]
      obtain ⟨vp, e⟩ := validPos_bOf_sOf wf hj
      obtain ⟨eb, es⟩ := pos_unique ⟨hbj.2 hj, by rw [Nat.pow_succ]; exact hs2, hup⟩ vp (hix.trans e.symm)
      rw [getCountAt_eq wf, hix, ← pre_succ, eb, es]
      rfl
    · rw [if_pos (Nat.le_of_not_lt fun h => hj (hbj.1 h)), if_neg fun h => hj h.2]

/-- the iterator as a list: from the state before index `j`, with `fuel` steps, it reports the
positions of the indices `j, j + 1, …` up to where the running total reaches `total` -/
theorem iterFrom_eq {g : Hist} (wf : WF g) : ∀ (fuel b : Nat) (s : Int) (j : Nat), St (2 ^ g.halfMag) b s j →
    iterFrom fuel g b s (pre g.counts j) =
      ((List.range' j (min fuel (g.countsLen - j))).takeWhile fun k => decide (pre g.counts k < g.total)).map
        (posAt g) := by
  intro fuel
  induction fuel with
  | zero => intro b s j _; simp [iterFrom]
  | succ fuel ih =>
    intro b s j st
    obtain ⟨b1, s1, st', e⟩ := iterFrom_succ wf st fuel
    rw [e]
    by_cases hj : j < g.countsLen
    · have : min (fuel + 1) (g.countsLen - j) = min fuel (g.countsLen - (j + 1)) + 1 := by
        rw [← Nat.add_min_add_right, Nat.sub_add_eq, Nat.sub_add_cancel (Nat.sub_pos_of_lt hj)]
      rw [this, List.range'_succ, List.takeWhile_cons]
      by_cases hp : pre g.counts j < g.total
      · rw [if_pos ⟨hp, hj⟩, ih b1 s1 (j + 1) st']; simp [hp]
      · rw [if_neg fun h => hp h.1]; simp [hp]
    · rw [Nat.sub_eq_zero_of_le (Nat.le_of_not_lt hj), Nat.min_zero, if_neg fun h => hj h.2]; rfl

theorem iter_eq {g : Hist} (wf : WF g) :
    iter g = ((List.range g.countsLen).takeWhile fun k => decide (pre g.counts k < g.total)).map (posAt g) := by
  have := iterFrom_eq wf (g.countsLen + 2) 0 (-1) 0 (st_start _)
  rw [Nat.sub_zero, Nat.min_eq_right (Nat.le_add_right _ 2)] at this
  rw [List.range_eq_range']
  exact this

/-- `iter g` is the walk from the state before index 0, where the running total is `pre g.counts 0 = 0`: the form
in which the lemmas about `iterFrom` apply to it -/
theorem iter_start (g : Hist) : iter g = iterFrom (g.countsLen + 2) g 0 (-1) (pre g.counts 0) := rfl

theorem iterFrom_nz {g : Hist} (wf : WF g) (hn : ∀ x ∈ g.counts, 0 ≤ x) (hsum : g.counts.sum = g.total)
    {fuel b : Nat} {s : Int} {j : Nat} (st : St (2 ^ g.halfMag) b s j) (hf : g.countsLen ≤ fuel + j) :
    (iterFrom fuel g b s (pre g.counts j)).filter (fun p => p.countAt ≠ 0) =
      ((List.range' j (g.countsLen - j)).filter fun k => decide (g.counts.getD k 0 ≠ 0)).map (posAt g) := by
  rw [iterFrom_eq wf _ _ _ _ st, List.filter_map, Nat.min_eq_right (Nat.sub_le_of_le_add hf)]
  refine congrArg _ (filter_takeWhile_range' _ _ (fun k i hk hki => ?_) _ _)
  -- where `takeWhile` stops the running total has reached the total: from there on every entry is zero
  exact decide_eq_false (not_not_intro (tail_zero g.counts hn k (by rw [hsum]; simpa using hk) i hki))

theorem iter_nz {g : Hist} (wf : WF g) (hn : ∀ x ∈ g.counts, 0 ≤ x) (hsum : g.counts.sum = g.total) :
    (iter g).filter (fun p => p.countAt ≠ 0) =
      ((List.range' 0 g.countsLen).filter fun k => decide (g.counts.getD k 0 ≠ 0)).map (posAt g) :=
  iterFrom_nz wf hn hsum (st_start _) (by omega)

theorem iter_highest_lt {h : Hist} (wf : WF h) : ∀ p ∈ iter h, p.highest < 2 ^ 63 := by
  intro p hp
  rw [iter_eq wf] at hp
  obtain ⟨j, hj, rfl⟩ := List.mem_map.1 hp
  obtain ⟨vp, _⟩ := validPos_bOf_sOf wf (List.mem_range.1 ((List.takeWhile_sublist _).subset hj))
  exact Nat.lt_of_lt_of_le (idx_highestEquiv wf (repr_pos wf vp).1).1 (cap_le wf)

/-- what `find?` returns on the iterator: the first index whose prefix sum reaches `rank` -/
theorem find_iter {h : Hist} (wf : WF h) (rank : Int) (hr : rank ≤ h.total) (t : Nat)
    (ht : t < h.countsLen) (hit : rank ≤ pre h.counts (t + 1)) :
    ∀ (fuel b : Nat) (s : Int) (j : Nat), St (2 ^ h.halfMag) b s j → j ≤ t → t - j < fuel → pre h.counts j < rank →
      (∀ k, j ≤ k → k < t → pre h.counts (k + 1) < rank) →
      ∃ p, (iterFrom fuel h b s (pre h.counts j)).find? (fun p => decide (p.countTo ≥ rank)) = some p ∧
        ∃ b' s', ValidPos h b' s' ∧ b' * 2 ^ h.halfMag + s' = t ∧ p.valueFrom = valueFromIndex h b' s' := by
  intro fuel b s j st hjt hf hlt hbefore
  obtain ⟨vp, e⟩ := validPos_bOf_sOf wf ht
  refine ⟨posAt h t, ?_, _, _, vp, e, rfl⟩
  have htn : t < j + min fuel (h.countsLen - j) :=
    (Nat.sub_lt_iff_lt_add' hjt).1 (Nat.lt_min.2 ⟨hf, Nat.sub_lt_sub_right hjt ht⟩)
  have hrun : ∀ k, j ≤ k → k ≤ t → pre h.counts k < rank := fun k h1 h2 => by
    rcases Nat.eq_or_lt_of_le h1 with rfl | h3
    · exact hlt
    · cases k with
      | zero => exact absurd h3 (Nat.not_lt_zero _)
      | succ k => exact hbefore k (Nat.le_of_lt_succ h3) h2
  rw [iterFrom_eq wf _ _ _ _ st, List.find?_map,
    find?_takeWhile_range' _ ((fun p : IterPos => decide (p.countTo ≥ rank)) ∘ posAt h) (t := t) (decide_eq_true hit) _ j
      hjt htn (fun k h1 h2 => decide_eq_true (Int.lt_of_lt_of_le (hrun k h1 h2) hr))
      (fun k h1 h2 => decide_eq_false (Int.not_le.2 (hbefore k h1 h2)))]
  rfl

/-! ### the value at a rank -/

/-- `x` is an order statistic of rank `r` of the multiset `A`: fewer than `r` elements lie
strictly below it and at least `r` lie at or below it (no sorting needed to say this) -/
def IsOrderStat (A : List Nat) (r : Nat) (x : Nat) : Prop :=
  x ∈ A ∧ A.countP (fun a => decide (a < x)) < r ∧ r ≤ A.countP (fun a => decide (a ≤ x))

/-- order statistics are monotone in the rank: otherwise everything at or below the later one would lie strictly
below the earlier one -/
theorem orderStat_mono {A : List Nat} {r r' x x' : Nat} (hrr : r ≤ r') (h : IsOrderStat A r x)
    (h' : IsOrderStat A r' x') : x ≤ x' := by
  apply Classical.byContradiction
  intro hn
  have : A.countP (fun a => decide (a ≤ x')) ≤ A.countP (fun a => decide (a < x)) :=
    List.countP_mono_left fun a _ ha => by simp only [decide_eq_true_eq] at ha ⊢; omega
  have := h.2.1
  have := h'.2.2
  omega

theorem sorted_counts : ∀ (S : List Nat), S.Pairwise (· ≤ ·) → ∀ (k : Nat) (hk : k < S.length),
    S.countP (fun a => decide (a < S[k])) ≤ k ∧ k + 1 ≤ S.countP (fun a => decide (a ≤ S[k]))
  | [], _, k, hk => by simp at hk
  | a :: t, hp, 0, _ => by
    rw [List.pairwise_cons] at hp
    constructor
    · have : t.countP (fun b => decide (b < a)) = 0 := by
        rw [List.countP_eq_zero]; intro b hb; have := hp.1 b hb; simp; omega
      simp [this]
    · simp
  | a :: t, hp, k + 1, hk => by
    rw [List.pairwise_cons] at hp
    have hk' : k < t.length := by simpa using hk
    obtain ⟨i1, i2⟩ := sorted_counts t hp.2 k hk'
    have hle : a ≤ t[k] := hp.1 _ (List.getElem_mem hk')
    simp only [List.getElem_cons_succ, List.countP_cons]
    constructor
    · split <;> omega
    · simp [hle]; omega

theorem sorted_mergeSort (A : List Nat) : (A.mergeSort (fun a b => decide (a ≤ b))).Pairwise (· ≤ ·) :=
  (List.pairwise_mergeSort (le := fun (a b : Nat) => decide (a ≤ b))
    (fun _ _ _ h1 h2 => decide_eq_true (Nat.le_trans (of_decide_eq_true h1) (of_decide_eq_true h2)))
    (fun a b => by simpa using Nat.le_total a b) A).imp of_decide_eq_true

theorem orderStat_sorted (A : List Nat) (r : Nat) (h1 : 1 ≤ r)
    (hr : r ≤ (A.mergeSort (fun a b => decide (a ≤ b))).length) :
    IsOrderStat A r ((A.mergeSort (fun a b => decide (a ≤ b)))[r - 1]'(by omega)) := by
  have hperm := List.mergeSort_perm A (fun a b => decide (a ≤ b))
  obtain ⟨c1, c2⟩ := sorted_counts _ (sorted_mergeSort A) (r - 1) (by omega)
  refine ⟨hperm.mem_iff.1 (List.getElem_mem _), ?_, ?_⟩
  · rw [← hperm.countP_eq]; exact Nat.lt_of_le_of_lt c1 (Nat.sub_lt h1 Nat.one_pos)
  · rw [← hperm.countP_eq]; exact Nat.le_trans (Nat.le_of_eq (Nat.sub_add_cancel h1).symm) c2

theorem Holds.valueAtRank {g : Hist} {A : List Nat} (H : Holds g A) {r x : Nat} (hos : IsOrderStat A r x) :
    valueAtRank g r = highestEquiv g x := by
  obtain ⟨hx, hlt, hle⟩ := hos
  have hxc := H.lt_cap x hx
  have hpre := pre_eq_countP g.counts A (idx g) H.cnt
  -- running totals against counts of smaller values, the index map being monotone
  have hbelow : ∀ k, k ≤ idx g x → pre g.counts k < (r : Int) := fun k hk => by
    rw [hpre]
    refine Int.ofNat_lt.2 (Nat.lt_of_le_of_lt (List.countP_mono_left fun a ha hak => ?_) hlt)
    simp only [decide_eq_true_eq] at hak ⊢
    exact lt_of_idx_lt H.wf (H.lt_cap a ha) (Nat.lt_of_lt_of_le hak hk)
  have hhit : (r : Int) ≤ pre g.counts (idx g x + 1) := by
    rw [hpre]
    refine Int.ofNat_le.2 (Nat.le_trans hle (List.countP_mono_left fun a ha hax => ?_))
    simp only [decide_eq_true_eq] at hax ⊢
    exact Nat.lt_succ_of_le (idx_mono H.wf hax hxc)
  have hrt : (r : Int) ≤ g.total := by
    rw [H.total]
    exact_mod_cast Nat.le_trans hle List.countP_le_length
  have hix := H.idx_lt hx
  obtain ⟨p, hfind, b, s, vp, e, hp⟩ := find_iter H.wf r hrt (idx g x) hix hhit (g.countsLen + 2) 0 (-1) 0
    (st_start _) (Nat.zero_le _) (by omega) (hbelow 0 (Nat.zero_le _)) fun k _ hk => hbelow (k + 1) hk
  -- `Hdr.`: the bare name is this theorem inside its own proof (namespace `Holds`)
  unfold Hdr.valueAtRank
  rw [iter_start, hfind]
  show highestEquiv g p.valueFrom = _
  rw [hp]
  exact (repr_of_idx H.wf hxc vp e).2

theorem valueAtRank_orderStat {h0 : Hist} (wf : WF h0)
    (hc : h0.counts = List.replicate h0.countsLen 0) (ht : h0.total = 0)
    (vs : List Int) (h63 : ∀ v ∈ vs, v < 2 ^ 63) (r x : Nat)
    (hos : IsOrderStat (accepted h0 vs) r x) :
    valueAtRank (recordAll h0 vs) r = highestEquiv h0 x := by
  rw [(holds_recordAll wf hc ht vs h63).valueAtRank hos, highestEquiv_recordAll]

/-! ### merging histograms of the same configuration -/

def mergeStep (acc : Hist × Int) (p : IterPos) : Hist × Int :=
  match recordValues acc.1 p.valueFrom p.countAt with
  | some h' => (h', acc.2)
  | none => (acc.1, acc.2 + p.countAt)

theorem merge_eq (h g : Hist) :
    merge h g = ((iter g).filter (fun p => p.countAt ≠ 0)).foldl mergeStep (h, 0) := by
  unfold merge; rfl

/-- `{ g with counts := c, total := t }` under a name: the accumulator of `Merge`'s fold stays one application, which
`mergeStep_eq` rewrites, instead of a constructor term with all twelve fields -/
def withCounts (g : Hist) (c : List Int) (t : Int) : Hist := { g with counts := c, total := t }

theorem mergeStep_eq (h : Hist) (c : List Int) (t d : Int) (p : IterPos) :
    mergeStep (withCounts h c t, d) p =
      if accepts h p.valueFrom then (withCounts h (c.modify (cix h p.valueFrom) (· + p.countAt)) (t + p.countAt), d)
      else (withCounts h c t, d + p.countAt) := by
  unfold mergeStep
  rw [recordValues_eq]
  show (match (if accepts h p.valueFrom then _ else none : Option Hist) with | some h' => _ | none => _) = _
  by_cases ha : accepts h p.valueFrom = true
  · rw [if_pos ha, if_pos ha]; rfl
  · rw [if_neg ha, if_neg ha]

/-- folding `Merge`'s step over the positions from index `j` on adds the argument's counts from
index `j` on, and drops nothing, when both histograms have the same configuration.  The `+ 1` of the fuel hypothesis
is more than the walk needs (`iterFrom_nz` asks for `countsLen ≤ fuel + j`); the callers have `countsLen + 2`. -/
theorem merge_fold {g : Hist} (wf : WF g) (hlen : g.counts.length = g.countsLen)
    (hn : ∀ x ∈ g.counts, 0 ≤ x) (hsum : g.counts.sum = g.total) :
    ∀ (fuel b : Nat) (s : Int) (j : Nat) (c : List Int) (t d : Int),
      St (2 ^ g.halfMag) b s j → c.length = g.countsLen → g.countsLen + 1 ≤ fuel + j →
      ∃ c', ((iterFrom fuel g b s (pre g.counts j)).filter (fun p => p.countAt ≠ 0)).foldl mergeStep
            (withCounts g c t, d) = (withCounts g c' (t + (g.total - pre g.counts j)), d) ∧
        c'.length = g.countsLen ∧
        ∀ i, c'.getD i 0 = c.getD i 0 + (if j ≤ i then g.counts.getD i 0 else 0) := by
  intro fuel b s j c t d st hc hf
  rw [iterFrom_nz wf hn hsum st (Nat.le_of_succ_le hf)]
  clear st hf
  -- the summand of `sum_split_at`, at one index `i`
  have hsplit : ∀ i j : Nat, (if j ≤ i then g.counts.getD i 0 else 0) =
      (if i = j then g.counts.getD j 0 else 0) + (if j + 1 ≤ i then g.counts.getD i 0 else 0) := by
    intro i j
    rcases Nat.lt_trichotomy i j with h | rfl | h
    · rw [if_neg (Nat.not_le.2 h), if_neg (Nat.ne_of_lt h), if_neg (Nat.not_le.2 (Nat.lt_succ_of_lt h))]; rfl
    · rw [if_pos (Nat.le_refl _), if_pos rfl, if_neg (Nat.not_succ_le_self _), Int.add_zero]
    · rw [if_pos (Nat.le_of_lt h), if_neg (Nat.ne_of_gt h), if_pos (show j + 1 ≤ i from h), Int.zero_add]
  generalize hm : g.countsLen - j = m
  induction m generalizing j c t with
  | zero =>
    -- past the end of the array the prefix sum is the total and every entry reads as zero
    have hp := pre_all g.counts (k := j) (hlen ▸ Nat.le_of_sub_eq_zero hm)
    refine ⟨c, ?_, hc, fun i => ?_⟩
    · rw [hp, hsum, Int.sub_self, Int.add_zero]; rfl
    · split
      · rename_i hji
        rw [tail_zero _ hn j (Int.le_of_eq hp.symm) i hji, Int.add_zero]
      · exact (Int.add_zero _).symm
  | succ m ih =>
    have hj : j < g.countsLen := Nat.lt_of_sub_eq_succ hm
    have hm' : g.countsLen - (j + 1) = m := by rw [Nat.sub_add_eq, hm]; rfl
    rw [List.range'_succ]
    by_cases hz : g.counts.getD j 0 = 0
    · obtain ⟨c', e, hl, hg⟩ := ih (j + 1) c t hc hm'
      refine ⟨c', ?_, hl, fun i => ?_⟩
      · rw [List.filter_cons, if_neg (mt of_decide_eq_true (not_not_intro hz)), e, pre_succ, hz, Int.add_zero]
      · rw [hg i, hsplit i j, hz, ite_self, Int.zero_add]
    · obtain ⟨c', e, hl, hg⟩ := ih (j + 1) (c.modify j (· + g.counts.getD j 0)) (t + g.counts.getD j 0)
        (by rw [List.length_modify]; exact hc) hm'
      -- `pre_succ`: the count at `j` moves from the part still to come, `total - pre j`, to the total so far
      have htot : t + g.counts.getD j 0 + (g.total - pre g.counts (j + 1)) = t + (g.total - pre g.counts j) := by
        rw [pre_succ, ← Int.sub_sub, Int.add_assoc, Int.add_comm (g.counts.getD j 0), Int.sub_add_cancel]
      refine ⟨c', ?_, hl, fun i => ?_⟩
      · -- the position at `j` is accepted, and at index `j` itself: its count is added to entry `j`
        rw [List.filter_cons, if_pos (decide_eq_true hz), List.map_cons, List.foldl_cons, mergeStep_eq,
          if_pos (accepts_posAt wf hj).1, (accepts_posAt wf hj).2]
        exact e.trans (congrArg (fun x => (withCounts g c' x, d)) htot)
      · rw [hg i, getD_modify_add _ _ _ (hc ▸ hj), hsplit i j, Int.add_assoc]

theorem merge_same {g : Hist} (wf : WF g) (hlen : g.counts.length = g.countsLen)
    (hn : ∀ x ∈ g.counts, 0 ≤ x) (hsum : g.counts.sum = g.total) (c : List Int) (t : Int)
    (hc : c.length = g.countsLen) :
    ∃ c', merge (withCounts g c t) g = (withCounts g c' (t + g.total), 0) ∧ c'.length = g.countsLen ∧
      ∀ i, c'.getD i 0 = c.getD i 0 + g.counts.getD i 0 := by
  obtain ⟨c', e, hl, hg⟩ := merge_fold wf hlen hn hsum (g.countsLen + 2) 0 (-1) 0 c t 0
    (st_start _) hc (by omega)
  refine ⟨c', ?_, hl, fun i => ?_⟩
  · rw [merge_eq, iter_start, e, show pre g.counts 0 = 0 from rfl, Int.sub_zero]
  · rw [hg i, if_pos (Nat.zero_le i)]

/-- Not via `Holds.merge`: that needs values below 2^63 and `C13.merge_is_union` has no such hypothesis. -/
theorem merge_recordAll {h0 : Hist} (wf : WF h0) (hc : h0.counts = List.replicate h0.countsLen 0) (ht : h0.total = 0)
    (vs ws : List Int) : merge (recordAll h0 vs) (recordAll h0 ws) = (recordAll h0 (vs ++ ws), 0) := by
  obtain ⟨invV, _, cntV, totV⟩ := recordAll_fresh hc ht vs
  obtain ⟨invW, nnW, cntW, totW⟩ := recordAll_fresh hc ht ws
  obtain ⟨invU, _, cntU, totU⟩ := recordAll_fresh hc ht (vs ++ ws)
  obtain ⟨c', e, hl, hg⟩ := merge_same (recordAll_wf wf ws) invW.1 nnW invW.2 (recordAll h0 vs).counts
    (recordAll h0 vs).total (by rw [invV.1]; simp only [recordAll_eq_cnts])
  -- receiver, argument and union differ in counts and total only
  have hV : ∀ us c t, withCounts (recordAll h0 ws) c t = { recordAll h0 us with counts := c, total := t } := by
    intro us c t; simp only [recordAll_eq_cnts]; rfl
  rw [hV vs] at e
  rw [e, hV (vs ++ ws)]
  have hc' : c' = (recordAll h0 (vs ++ ws)).counts :=
    ext_getD (by rw [hl, invU.1]; simp only [recordAll_eq_cnts]) fun i => by
      rw [hg i, cntV, cntW, cntU, List.countP_append]; rfl
  rw [hc', totV, totW, ← Int.natCast_add, ← List.length_append, ← List.filter_append, ← totU]

end Ftdc.Hdr
