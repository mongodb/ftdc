import FtdcVerif.Model.Bson
/-! All three readers of a size-prefixed document (`frame`, `decodePayload`, `parseVal` on an embedded document) read
the size word, check its range and take that many bytes: `WellFramed.split` says what each of these steps yields. -/
namespace Ftdc

theorem rdLe_leN (k n : Nat) (h : n < 256 ^ k) : rdLe (leN k n) = n := by
  induction k generalizing n with
  | zero => simp at h; subst h; rfl
  | succ k ih =>
    rw [Nat.pow_succ] at h
    have hq : n / 256 < 256 ^ k := (Nat.div_lt_iff_lt_mul (by decide)).2 h
    rw [leN, rdLe, ih _ hq, Nat.mod_add_div]

theorem leN_length (k n : Nat) : (leN k n).length = k := by
  induction k generalizing n with
  | zero => rfl
  | succ k ih => simp [leN, ih]

theorem rdLe_le32 (n : Nat) (h : n < 2 ^ 32) : rdLe (le32 n) = n := rdLe_leN 4 n h

theorem rdLe_le64 (n : Nat) (h : n < 2 ^ 64) : rdLe (le64 n) = n := rdLe_leN 8 n h

theorem le32_length (n : Nat) : (le32 n).length = 4 := leN_length 4 n
theorem le64_length (n : Nat) : (le64 n).length = 8 := leN_length 8 n

theorem takeN_append (a r : Bytes) (n : Nat) (h : a.length = n) : takeN n (a ++ r) = some (a, r) := by
  subst h; simp [takeN]

/-- `5` and `2^31` are the bounds `frame` checks the size word against -/
def WellFramed (db : Bytes) : Prop :=
  5 ≤ db.length ∧ db.length < 2 ^ 31 ∧ rdLe (db.take 4) = db.length

/-- one conjunct per step of the reader: the size word, its value, the outcome of the range check, the split -/
theorem WellFramed.split {db : Bytes} (h : WellFramed db) (rest : Bytes) :
    takeN 4 (db ++ rest) = some (db.take 4, db.drop 4 ++ rest) ∧ rdLe (db.take 4) = db.length ∧
    ¬ (db.length < 5 ∨ db.length ≥ 2 ^ 31) ∧ takeN db.length (db ++ rest) = some (db, rest) := by
  obtain ⟨h5, h31, hsz⟩ := h
  refine ⟨?_, hsz, not_or.2 ⟨Nat.not_lt.2 h5, Nat.not_le.2 h31⟩, takeN_append db rest _ rfl⟩
  rw [← List.take_append_drop 4 db, List.append_assoc, List.take_append_drop]
  exact takeN_append _ _ 4 (List.length_take_of_le (Nat.le_of_succ_le h5))

theorem serDoc_length (d : BDoc) : (serDoc d).length = (serElems d).length + 5 := by
  simp [serDoc, le32_length]; omega

theorem serDoc_wellFramed (d : BDoc) (h : (serDoc d).length < 2 ^ 31) : WellFramed (serDoc d) := by
  have hl := serDoc_length d
  refine ⟨by omega, h, ?_⟩
  have : (serDoc d).take 4 = le32 ((serElems d).length + 5) := by
    simp [serDoc, le32_length]
  rw [this, rdLe_le32 _ (by omega), hl]

end Ftdc
