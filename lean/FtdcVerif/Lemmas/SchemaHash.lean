import FtdcVerif.Model.Collector
import FtdcVerif.Lemmas.Csv
import FtdcVerif.Lemmas.EndToEnd
/-!
# The schema key (`metricKeyHash`, bson_hash.go)

The schema-aware collectors compare schemas by their key only.  What is fed to the checksum is the list of full metric
keys, each followed by a NUL byte; keys are C strings, so the list can be read back from the bytes: equal hash input
means equal key lists (`terminated_inj`).  In the other direction the key does not look at values, so documents of
one schema (`SimDoc`) have one key (`sim_schemaKey`).  FNV-64 itself is an external function.
-/
namespace Ftdc

mutual
/-- the full keys `metricKeyHash` writes to the checksum, in document order -/
def hashPathsVal (key : Bytes) : BVal → List Bytes
  | .doc d => hashPathsElems key d
  | .arr d => hashPathsArr key 0 d
  | .other _ _ => []
  | .double _ => [key]
  | .bool _ => [key]
  | .datetime _ => [key]
  | .int32 _ => [key]
  | .timestamp _ _ => [key]
  | .int64 _ => [key]
def hashPathsElems (key : Bytes) : BDoc → List Bytes
  | .nil => []
  | .cons k v r => hashPathsVal (key ++ [dot] ++ k) v ++ hashPathsElems key r
def hashPathsArr (key : Bytes) (idx : Nat) : BDoc → List Bytes
  | .nil => []
  | .cons _ v r => hashPathsVal (key ++ [dot] ++ decimal idx) v ++ hashPathsArr key (idx + 1) r
end

def terminated (l : List Bytes) : Bytes := (l.map (· ++ [0])).flatten

theorem terminated_append (a b : List Bytes) : terminated (a ++ b) = terminated a ++ terminated b := by
  simp [terminated]

mutual
theorem hashVal_spec : (v : BVal) → ∀ key, (hashVal key v).1 = terminated (hashPathsVal key v)
  | .doc d, key => hashElems_spec d key
  | .arr d, key => hashArr_spec d key 0
  | .other _ _, _ => rfl
  | .double _, _ | .bool _, _ | .datetime _, _ | .int32 _, _ | .timestamp _ _, _ | .int64 _, _ =>
    (List.append_nil _).symm
theorem hashElems_spec : (d : BDoc) → ∀ key, (hashElems key d).1 = terminated (hashPathsElems key d)
  | .nil, _ => rfl
  | .cons k v r, key => by
    rw [hashElems, hashPathsElems, terminated_append, ← hashVal_spec v, ← hashElems_spec r]
theorem hashArr_spec : (d : BDoc) → ∀ key idx, (hashArr key idx d).1 = terminated (hashPathsArr key idx d)
  | .nil, _, _ => rfl
  | .cons _ v r, key, idx => by
    rw [hashArr, hashPathsArr, terminated_append, ← hashVal_spec v, ← hashArr_spec r]
end

theorem splitOn_terminated {l : List Bytes} (h : ∀ s ∈ l, 0 ∉ s) : (terminated l).splitOn 0 = l ++ [[]] := by
  induction l with
  | nil => rfl
  | cons a r ih =>
    obtain ⟨ha, hr⟩ := List.forall_mem_cons.1 h
    rw [show terminated (a :: r) = a ++ 0 :: terminated r by simp [terminated],
      List.splitOn_append_cons_self_of_not_mem ha, ih hr, List.cons_append]

theorem terminated_inj : ∀ (l1 l2 : List Bytes), (∀ s ∈ l1, 0 ∉ s) → (∀ s ∈ l2, 0 ∉ s) →
    terminated l1 = terminated l2 → l1 = l2 := by
  intro l1 l2 h1 h2 h
  refine List.append_cancel_right (bs := [[]]) ?_
  rw [← splitOn_terminated h1, h, splitOn_terminated h2]

theorem decimal_nulfree (n : Nat) : 0 ∉ decimal n := fun h => by
  have := decimal_digits n 0 h
  unfold IsDigit at this; omega

mutual
/-- every key of the document (at any depth) is a C string: no NUL byte -/
def NulFreeVal : BVal → Prop
  | .doc d => NulFree d
  | .arr d => NulFree d
  | _ => True
def NulFree : BDoc → Prop
  | .nil => True
  | .cons k v r => 0 ∉ k ∧ NulFreeVal v ∧ NulFree r
end

mutual
theorem hashPathsVal_nulfree : (v : BVal) → NulFreeVal v → ∀ key, 0 ∉ key → ∀ s ∈ hashPathsVal key v, 0 ∉ s
  | .doc d, h, key, hk => hashPathsElems_nulfree d h key hk
  | .arr d, h, key, hk => hashPathsArr_nulfree d h key hk 0
  | .other _ _, _, _, _ => fun _ hs => nomatch hs
  | .double _, _, _, hk | .bool _, _, _, hk | .datetime _, _, _, hk | .int32 _, _, _, hk
  | .timestamp _ _, _, _, hk | .int64 _, _, _, hk => List.forall_mem_singleton.2 hk
theorem hashPathsElems_nulfree : (d : BDoc) → NulFree d → ∀ key, 0 ∉ key → ∀ s ∈ hashPathsElems key d, 0 ∉ s
  | .nil, _, _, _ => fun _ hs => nomatch hs
  | .cons k v r, h, key, hk => List.forall_mem_append.2
    ⟨hashPathsVal_nulfree v h.2.1 _ (by simp [dot]; exact ⟨hk, h.1⟩), hashPathsElems_nulfree r h.2.2 key hk⟩
theorem hashPathsArr_nulfree : (d : BDoc) → NulFree d → ∀ key, 0 ∉ key → ∀ idx, ∀ s ∈ hashPathsArr key idx d, 0 ∉ s
  | .nil, _, _, _, _ => fun _ hs => nomatch hs
  | .cons _ v r, h, key, hk, idx => List.forall_mem_append.2
    ⟨hashPathsVal_nulfree v h.2.1 _ (by simp [dot]; exact ⟨hk, decimal_nulfree idx⟩),
      hashPathsArr_nulfree r h.2.2 key hk (idx + 1)⟩
end

mutual
theorem hashVal_shape : (v : BVal) → ∀ key, hashVal key (shapeVal v) = hashVal key v
  | .doc d => fun key => hashElems_shape d key
  | .arr d => fun key => hashArr_shape d key 0
  | .double _ | .bool _ | .datetime _ | .int32 _ | .timestamp _ _ | .int64 _ | .other _ _ => fun _ => rfl
theorem hashElems_shape : (d : BDoc) → ∀ key, hashElems key (shapeDoc d) = hashElems key d
  | .nil => by intro key; rfl
  | .cons _ v r => by intro key; simp [shapeDoc, hashElems, hashVal_shape v, hashElems_shape r]
theorem hashArr_shape : (d : BDoc) → ∀ key idx, hashArr key idx (shapeDoc d) = hashArr key idx d
  | .nil => by intro key idx; rfl
  | .cons _ v r => by intro key idx; simp [shapeDoc, hashArr, hashVal_shape v, hashArr_shape r]
end

theorem simVal_hash : (a b : BVal) → SimVal a b → ∀ key, hashVal key a = hashVal key b := by
  intro a b h key; rw [← hashVal_shape a, (simVal_iff a b).1 h, hashVal_shape]
theorem simDoc_hashElems (a b : BDoc) (h : SimDoc a b) (key : Bytes) : hashElems key a = hashElems key b := by
  rw [← hashElems_shape a, (simDoc_iff a b).1 h, hashElems_shape]
theorem simDoc_hashArr : (a b : BDoc) → SimDoc a b → ∀ key idx, hashArr key idx a = hashArr key idx b := by
  intro a b h key idx; rw [← hashArr_shape a, (simDoc_iff a b).1 h, hashArr_shape]

theorem sim_schemaKey (a b : BDoc) (h : SimDoc a b) : schemaKey a = schemaKey b :=
  simDoc_hashElems a b h []

end Ftdc
