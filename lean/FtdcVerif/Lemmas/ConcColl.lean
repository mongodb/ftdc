import FtdcVerif.Model.ConcColl
import FtdcVerif.Lemmas.Sched
/-! The synchronized collector's invariant is a conjunction over the producers (`SInv orig s = ∀ g, PInv orig s g`): a step
of `g` is checked against `g`'s own clauses, and for every other producer `sstep_other` is the frame lemma.  The buffered
collector has one drain goroutine and a flat invariant, `BInv`. -/
namespace Ftdc.ConcColl

theorem upd_same {α : Type} (f : Nat → α) (i : Nat) (v : α) : upd f i v i = v := if_pos rfl
theorem upd_other {α : Type} (f : Nat → α) (i k : Nat) (v : α) (h : k ≠ i) : upd f i v k = f k := if_neg h

structure PInv (orig : Nat → List Nat) (s : SSt) (g : Nat) : Prop where
  cs_owner : ∀ x, s.pc g = .inCS x → s.owner = some g
  log_acked : logOf s g = s.acked g
  conserve : orig g = s.acked g ++ (match s.pc g with | .idle => [] | .waiting x => [x] | .inCS x => [x]) ++ s.todo g

def SInv (orig : Nat → List Nat) (s : SSt) : Prop := ∀ g, PInv orig s g

theorem sinit_inv (orig : Nat → List Nat) : SInv orig { todo := orig } := fun g => by
  constructor <;> simp [logOf]

/-- A step of `g` leaves alone what the invariant mentions of another producer `k`, the mutex included if `k` holds it. -/
theorem sstep_other {s s' : SSt} {g k : Nat} (hs : sstep s g = some s') (e : k ≠ g)
    (hg : ∀ x, s.pc g = .inCS x → s.owner = some g) :
    s'.pc k = s.pc k ∧ s'.todo k = s.todo k ∧ s'.acked k = s.acked k ∧ logOf s' k = logOf s k ∧
      (s.owner = some k → s'.owner = some k) := by
  revert hs
  fun_cases sstep s g <;> intro hs <;> cases hs <;>
    simp [upd_other _ _ _ _ e, logOf, List.filter_append, Ne.symm e]
  next hfree => rw [hfree]; nofun  -- `g` takes the mutex only when it is free,
  next x hp => rw [hg x hp]; exact fun h => e (Option.some.inj h).symm  -- and releases only its own

theorem sstep_inv (orig : Nat → List Nat) (s : SSt) (g : Nat) (s' : SSt) (h : SInv orig s) (hs : sstep s g = some s') :
    SInv orig s' := by
  intro k
  obtain ⟨hcs, hlog, hcons⟩ := h k
  by_cases e : k = g
  · subst e
    revert hs
    fun_cases sstep s k <;> intro hs <;> cases hs
    next hp x rest ht =>  -- `k` picks its next sample
      exact ⟨by simp [upd_same], hlog, by simp_all [upd_same]⟩
    next x hp hfree =>  -- takes the mutex
      exact ⟨fun _ _ => rfl, hlog, by simp_all [upd_same]⟩
    next x hp =>  -- hands its sample to the wrapped collector and unlocks
      exact ⟨by simp [upd_same], by simp [logOf, List.filter_append, upd_same, ← hlog], by simp_all [upd_same]⟩
  · obtain ⟨hp, ht, ha, hl, ho⟩ := sstep_other hs e (h g).cs_owner
    exact ⟨fun x hx => ho (hcs x (hp ▸ hx)), by rw [hl, ha]; exact hlog, by rw [hp, ht, ha]; exact hcons⟩

theorem srun_inv (orig : Nat → List Nat) (sched : List Nat) : ∀ s, SInv orig s → SInv orig (srun s sched) :=
  Sched.foldl_inv (sstep_inv orig) sched

/-! `at_cancel_le` is there for `delivered` only: the drain goroutine exits on an empty queue, where `log = accepted`
by `conserve`. -/
structure BInv (s : BSt) : Prop where
  conserve : s.accepted = s.log ++ s.queue
  exited_cancelled : s.dpc = .exited → s.cancelled = true
  at_cancel_le : s.cancelled = true → s.acceptedAtCancel ≤ s.accepted.length
  delivered : s.dpc = .exited → s.acceptedAtCancel ≤ s.log.length
  not_cancelled : s.cancelled = false → s.dpc = .select

theorem binit_inv (cap : Nat) : BInv { cap := cap } := by
  constructor <;> simp

theorem bstep_inv (s : BSt) (a : BAct) (s' : BSt) (h : BInv s) (hs : bstep s a = some s') : BInv s' := by
  obtain ⟨hcons, _, hle, _, _⟩ := h
  -- the arm with content: the drain goroutine exits, cancelled, on an empty queue
  have exit : s.queue = [] → s.cancelled = true → s.acceptedAtCancel ≤ s.log.length := fun hq hc => by
    have := hle hc
    rwa [hcons, hq, List.append_nil] at this
  revert hs
  fun_cases bstep s a <;> intro hs <;> cases hs <;> grind -ring -linarith [BInv]

theorem brun_inv (sched : List BAct) : ∀ s, BInv s → BInv (brun s sched) :=
  Sched.foldl_inv bstep_inv sched

end Ftdc.ConcColl
