import FtdcVerif.Lemmas.HdrRank
/-!
# The numerator of `Mean`

`Mean` sums `count × median equivalent value` over the non-empty positions and divides by the total.
The sum is the sum of the median equivalent values of the recorded values.
-/
namespace Ftdc.Hdr

theorem medianEquiv_lowestEquiv {g : Hist} (wf : WF g) {a : Nat} (ha : a < cap g) :
    medianEquiv g (lowestEquiv g a) = medianEquiv g a := by
  obtain ⟨_, r1, r2⟩ := repr_pos wf (validPos_of wf ha)
  unfold medianEquiv lowestEquiv sizeOfRange
  dsimp only
  rw [r1, r2]

theorem Holds.meanNum {g : Hist} {A : List Nat} (H : Holds g A) :
    meanNum g = (A.map fun a => ((medianEquiv g a : Nat) : Int)).sum := by
  have hfold : Hdr.meanNum g =
      ((iter g).filter fun p => decide (p.countAt ≠ 0)).foldl
        (fun t p => t + p.countAt * ((medianEquiv g p.valueFrom : Nat) : Int)) 0 := by
    unfold Hdr.meanNum; rw [List.foldl_filter]; congr 1; funext t p; simp
  rw [hfold, iter_nz H.wf H.nonneg H.inv.2, ← List.foldl_map (g := (· + ·)), ← List.sum_eq_foldl,
    sum_positions_weighted H.wf H.lt_cap H.cnt (fun v => ((medianEquiv g v : Nat) : Int)) g.countsLen 0
      (fun a ha => by have := H.idx_lt ha; omega)]
  -- not `congr 1`: it tries `rfl` first, which unfolds `medianEquiv` down to `bitLen`
  refine congrArg List.sum (List.map_congr_left fun a ha => ?_)
  rw [if_pos (Nat.zero_le _)]
  show ((medianEquiv g (lowestEquiv g a) : Nat) : Int) = _
  rw [medianEquiv_lowestEquiv H.wf (H.lt_cap a ha)]

end Ftdc.Hdr
