import FtdcVerif.Lemmas.SDynE2E
/-!
# Exact chunk boundaries of the schema-aware collectors

`Chop n s g`: the chunks `g` are the run `s` cut at capacity — they concatenate to the run, none holds
more than `n` documents, and only the last may hold fewer.  `Chops n segs groups`: one such group per run.
`SDX` is `SDG` with the written chunks grouped by run; the dynamic collector's batch collector per run cuts its run
the same way (`batch_chop`).
-/
namespace Ftdc

def Chop (n : Nat) (s : BDoc × List BDoc) (g : List (BDoc × List BDoc)) : Prop :=
  g ≠ [] ∧ (g.map chunkDocs).flatten = chunkDocs s ∧ (∀ q ∈ g, q.2.length + 1 ≤ n) ∧
    (∀ q ∈ g.dropLast, q.2.length + 1 = n)

def Chops (n : Nat) : List (BDoc × List BDoc) → List (List (BDoc × List BDoc)) → Prop
  | [], [] => True
  | s :: ss, g :: gs => Chop n s g ∧ Chops n ss gs
  | _, _ => False

/-- `allHold_append` again: `Chops` pairs two lists as `AllHold` does -/
theorem chops_snoc {n : Nat} {ss : List (BDoc × List BDoc)} {gs : List (List (BDoc × List BDoc))}
    {s : BDoc × List BDoc} {g : List (BDoc × List BDoc)} (h : Chops n ss gs) (hh : Chop n s g) :
    Chops n (ss ++ [s]) (gs ++ [g]) := by
  fun_induction Chops n ss gs with
  | case1 => exact ⟨hh, trivial⟩
  | case2 s0 ss g0 gs ih => exact ⟨h.1, ih h.2⟩
  | case3 => exact h.elim

theorem chop_close {n : Nat} {d0 : BDoc} {cur : List BDoc} {cg : List (BDoc × List BDoc)} {p : BDoc × List BDoc}
    (hdocs : (cg.map chunkDocs).flatten ++ chunkDocs p = d0 :: cur) (hfull : ∀ q ∈ cg, q.2.length + 1 = n)
    (hp : p.2.length + 1 ≤ n) : Chop n (d0, cur) (cg ++ [p]) := by
  refine ⟨by simp, by simpa [chunkDocs] using hdocs, ?_, by rwa [List.dropLast_concat]⟩
  exact List.forall_mem_append.2 ⟨fun q hq => Nat.le_of_eq (hfull q hq), List.forall_mem_singleton.2 hp⟩

/-- `SDG` with the chunks grouped by run: `gs` are the cuts of the closed runs `done`, and the full chunks `cg` followed
by the pending chunk `p` make up the current run `(h, cur)` -/
def SDX (n : Nat) (c : StreamingDynamic) (done : List (BDoc × List BDoc)) (h : BDoc) (cur : List BDoc) : Prop :=
  ∃ (chs : List (BDoc × List BDoc)) (p : BDoc × List BDoc) (gs : List (List (BDoc × List BDoc)))
    (cg : List (BDoc × List BDoc)),
    SDG n c chs p ∧ SimDoc p.1 h ∧ chs = gs.flatten ++ cg ∧ Chops n done gs ∧
    (cg.map chunkDocs).flatten ++ chunkDocs p = h :: cur ∧ (∀ q ∈ cg, q.2.length + 1 = n)

theorem sdx_first (n : Nat) (hn : 1 ≤ n) (d : BDoc) : SDX n ((StreamingDynamic.new n).add d).1 [] d [] := by
  obtain ⟨_, g⟩ := sd_add_first n hn d
  -- no closed run and no full chunk: the clauses after `SimDoc` are about empty lists
  exact ⟨[], (d, []), [], [], g, simDoc_refl _, rfl, trivial, rfl, nofun⟩

theorem sdx_same (n : Nat) (hn : 1 ≤ n) (c : StreamingDynamic) (done : List (BDoc × List BDoc)) (h : BDoc)
    (cur : List BDoc) (d : BDoc) (x : SDX n c done h cur) (hsim : SimDoc h d) : SDX n (c.add d).1 done h (cur ++ [d]) := by
  obtain ⟨chs, p, gs, cg, g, hp, hchs, hch, hdocs, hfull⟩ := x
  obtain ⟨_, hcase⟩ := sd_add_same_cases hn g (simDoc_trans _ _ _ hp hsim)
  have hdocs' : (cg.map chunkDocs).flatten ++ chunkDocs p ++ [d] = h :: (cur ++ [d]) := congrArg (· ++ [d]) hdocs
  rcases hcase with g' | ⟨g', hpf⟩
  · exact ⟨_, _, gs, cg, g', hp, hchs, hch, by simpa [chunkDocs] using hdocs', hfull⟩
  · refine ⟨_, _, gs, cg ++ [p], g', ?sim, ?chs, hch, ?docs, ?full⟩
    case sim => exact simDoc_symm _ _ hsim
    case chs => rw [hchs, List.append_assoc]
    case docs => simpa [chunkDocs] using hdocs'
    case full => exact List.forall_mem_append.2 ⟨hfull, List.forall_mem_singleton.2 hpf⟩

theorem sdx_diff (n : Nat) (hn : 1 ≤ n) (c : StreamingDynamic) (done : List (BDoc × List BDoc)) (h : BDoc)
    (cur : List BDoc) (d : BDoc) (x : SDX n c done h cur) (hne : (schemaKey d).1 ≠ (schemaKey h).1) :
    SDX n (c.add d).1 (done ++ [(h, cur)]) d [] := by
  obtain ⟨chs, p, gs, cg, g, hp, hchs, hch, hdocs, hfull⟩ := x
  obtain ⟨_, g'⟩ := sd_add_diff n hn c chs p d g (by rw [sim_schemaKey _ _ hp]; exact hne)
  refine ⟨_, _, gs ++ [cg ++ [p]], [], g', ?sim, ?chs, ?chops, ?docs, ?full⟩
  case sim => exact simDoc_refl _
  case chs => rw [hchs]; simp
  case chops => exact chops_snoc hch (chop_close hdocs hfull (g.sg.size_le (.inr rfl)))
  case docs => rfl
  case full => nofun

theorem sdx_run_same {n : Nat} {done : List (BDoc × List BDoc)} {d0 : BDoc} {c : StreamingDynamic} (hn : 1 ≤ n)
    (ds : List BDoc) (x : SDX n c done d0 []) (hds : ∀ d ∈ ds, SimDoc d0 d) :
    SDX n (ds.foldl (fun (c : StreamingDynamic) d => (c.add d).1) c) done d0 ds := by
  refine List.foldl_history _ (fun c' pre => SDX n c' done d0 pre) ds c x ?_
  intro c' pre d post hl x'
  exact sdx_same n hn c' done d0 pre d x' (hds d (by simp [hl]))

theorem sdx_segs (n : Nat) (hn : 1 ≤ n) : ∀ (segs : List (BDoc × List BDoc)) (c : StreamingDynamic)
    (done : List (BDoc × List BDoc)) (h : BDoc) (cur : List BDoc), SDX n c done h cur →
    (∀ s ∈ segs, InSim s) → HeadDiff (schemaKey h) segs → AdjDiff segs →
    ∃ done' h' cur', SDX n ((segs.flatMap chunkDocs).foldl (fun (c : StreamingDynamic) d => (c.add d).1) c) done' h' cur' ∧
      done' ++ [(h', cur')] = done ++ [(h, cur)] ++ segs := by
  intro segs
  induction segs with
  | nil => intro c done d0 cur x _ _ _; exact ⟨done, d0, cur, by simpa using x, by simp⟩
  | cons s rest ih =>
    intro c done d0 cur x hsim hh hadj
    -- the head of `s` closes the run `(d0, cur)`, its tail follows
    have x1 := sdx_run_same hn s.2 (sdx_diff n hn c done d0 cur s.1 x hh) (hsim s (List.mem_cons_self ..))
    obtain ⟨done', d0', cur', x2, he⟩ := ih _ (done ++ [(d0, cur)]) s.1 s.2 x1
      (fun y hy => hsim y (List.mem_cons_of_mem _ hy)) hadj.1 hadj.2
    exact ⟨done', d0', cur', by simpa [List.flatMap_cons, List.foldl_append, chunkDocs] using x2, by rw [he]; simp⟩

/-- any sequence of runs with changing schema keys: what the collector wrote, followed by its pending chunk, is every
run cut at capacity — a new chunk at each change of schema and otherwise only at capacity -/
theorem sd_chops (n : Nat) (hn : 1 ≤ n) (s0 : BDoc × List BDoc) (segs : List (BDoc × List BDoc))
    (hsim : ∀ s ∈ s0 :: segs, InSim s) (hadj : AdjDiff (s0 :: segs)) :
    ∃ (chs : List (BDoc × List BDoc)) (p : BDoc × List BDoc) (groups : List (List (BDoc × List BDoc))),
      SDG n (((s0 :: segs).flatMap chunkDocs).foldl (fun (c : StreamingDynamic) d => (c.add d).1)
        (StreamingDynamic.new n)) chs p ∧
      chs ++ [p] = groups.flatten ∧ Chops n (s0 :: segs) groups := by
  have x0 := sdx_run_same hn s0.2 (sdx_first n hn s0.1) (hsim s0 (List.mem_cons_self ..))
  obtain ⟨done', d0', cur', x2, he⟩ := sdx_segs n hn segs _ [] s0.1 s0.2 x0
    (fun y hy => hsim y (List.mem_cons_of_mem _ hy)) hadj.1 hadj.2
  obtain ⟨chs, p, gs, cg, g, _, hchs, hch, hdocs, hfull⟩ := x2
  refine ⟨chs, p, gs ++ [cg ++ [p]], ?sdg, ?flat, ?chops⟩
  case sdg => simpa [List.flatMap_cons, List.foldl_append, chunkDocs] using g
  case flat => rw [hchs]; simp
  case chops =>
    have := chops_snoc hch (chop_close hdocs hfull (g.sg.size_le (.inr rfl)))
    rw [he] at this
    simpa using this

theorem batch_chop (n : Nat) (hn : 1 ≤ n) (s : BDoc × List BDoc) (hsim : InSim s) :
    ∃ g, Chop n s g ∧ (batchOf n s).resolve = some (g.map mkChunk) := by
  obtain ⟨g, hallh, hall⟩ := bg_run_holds n hn s.1 s.2 hsim
  have hinv : (batchOf n s).Inv ∧ (batchOf n s).maxSamples = n :=
    Batch.run_inv n (chunkDocs s) (Batch.new n) ⟨Batch.new_inv n hn, rfl⟩
  refine ⟨g, ⟨by rintro rfl; simp at hall, hall, allHold_le hallh, ?_⟩, Batch.resolve_of_allHold hallh⟩
  -- `g[i]` is as long as chunk `i`, and every chunk but the last is full (`Batch.Inv`)
  intro q hq
  have : q.2.length + 1 ∈ g.dropLast.map (fun p => p.2.length + 1) := List.mem_map_of_mem hq
  rw [List.map_dropLast, allHold_sizes hallh, ← List.map_dropLast] at this
  obtain ⟨c, hc, e⟩ := List.mem_map.1 this
  rw [← e, hinv.1.full c hc, hinv.2]

end Ftdc
