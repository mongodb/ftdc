import FtdcVerif.Gen.Code
import FtdcVerif.Model.Codec
import FtdcVerif.Lemmas.Codec
/-! `undelta` (util.go) as regenerated from the Go text equals the model's `undelta`, modulo 2^64 (the Go additions wrap;
the translation is over ideal integers and reduction modulo 2^64 commutes with addition). -/
namespace Ftdc.UndeltaTie
open Ftdc Ftdc.Gen Ftdc.Gen.Util

abbrev B (x : Int) : BitVec 64 := BitVec.ofInt 64 x

theorem B_add (a b : Int) : B (a + b) = B a + B b := by simp [B, BitVec.ofInt_add]

def Inv (v : Int) (ds : List Int) (k : Nat) (out : List Int) : Prop :=
  out.length = ds.length + 1 ∧
  ∀ i, i ≤ k → B (out.getD i 0) = (Ftdc.undelta (B v) (ds.map B)).getD i 0

theorem index_natCast (l : List Int) (j : Nat) : Go.index l (j : Int) = l.getD j 0 := by
  rw [Go.index, if_neg (Int.not_lt.2 (Int.natCast_nonneg j)), Int.toNat_natCast]

theorem set_natCast (l : List Int) (j : Nat) (x : Int) : Go.set l (j : Int) x = l.set j x := by
  rw [Go.set, if_neg (Int.not_lt.2 (Int.natCast_nonneg j)), Int.toNat_natCast]

/-- the loop body, `out[idx+1] = out[idx] + delta` -/
theorem inv_step {v : Int} {ds out : List Int} {k : Nat} (hi : Inv v ds k out) (hk : k < ds.length) :
    Inv v ds (k + 1) (out.set (k + 1) (out.getD k 0 + ds.getD k 0)) := by
  obtain ⟨hl, hv⟩ := hi
  refine ⟨by rw [List.length_set, hl], ?_⟩
  intro i hi'
  by_cases he : i = k + 1
  · subst he
    have hd : (ds.map B).getD k 0 = B (ds.getD k 0) := by
      rw [List.getD_eq_getElem?_getD, List.getD_eq_getElem?_getD, List.getElem?_map]
      cases ds[k]? <;> simp [B]
    have hsum : B (out.getD k 0 + ds.getD k 0) = (Ftdc.undelta (B v) (ds.map B)).getD k 0 + (ds.map B).getD k 0 := by
      rw [B_add, hv k (Nat.le_refl k), hd]
    rw [List.getD_eq_getElem?_getD, List.getElem?_set_self (by omega), Option.getD_some, hsum,
      undelta_succ _ _ k (by rwa [List.length_map])]
  · rw [List.getD_eq_getElem?_getD, List.getElem?_set_ne (by omega), ← List.getD_eq_getElem?_getD]
    exact hv i (by omega)

theorem loop_tie (v : Int) (ds : List Int) (n k : Nat) (out : List Int) (h : k + n = ds.length) (hi : Inv v ds k out) :
    Inv v ds ds.length (undelta_loop2 ds n (k : Int) out).2 := by
  induction n generalizing k out with
  | zero => exact h ▸ hi
  | succ n ih =>
    rw [undelta_loop2, if_pos (show (k : Int) < Int.ofNat ds.length from Int.ofNat_lt.2 (by omega))]
    simp only [← Int.natCast_succ, set_natCast, index_natCast]
    exact ih (k + 1) _ (by omega) (inv_step hi (by omega))

theorem undelta_tie (v : Int) (ds : List Int) :
    (Gen.Util.undelta v ds).map B = Ftdc.undelta (B v) (ds.map B) := by
  have hinit : Inv v ds 0 ((List.replicate (ds.length + 1) (0 : Int)).set 0 v) := by
    refine ⟨by simp, fun i hi => ?_⟩
    obtain rfl : i = 0 := by omega
    rw [undelta_zero]
    rfl
  obtain ⟨hl, hv⟩ : Inv v ds ds.length (undelta_loop2 ds ds.length 0 _).2 :=
    loop_tie v ds ds.length 0 _ (Nat.zero_add _) hinit
  simp only [Gen.Util.undelta, Int.ofNat_eq_natCast, Int.sub_zero, Int.toNat_natCast, Int.toNat_natCast_add_one,
    show Go.set _ 0 v = _ from set_natCast _ 0 v]
  apply List.ext_getElem
  · rw [List.length_map, undelta_length, List.length_map, hl]
  · intro i h1 h2
    rw [List.getElem_map, List.getElem_eq_getD 0, List.getElem_eq_getD 0]
    exact hv i (by rw [undelta_length, List.length_map] at h2; omega)

end Ftdc.UndeltaTie
