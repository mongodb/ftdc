import FtdcVerif.Model.Csv
/-! `parseDigits` inverts `decimal`: started at 0, the parser has read the number when it is through the digits
`digitsAux` puts in front of its accumulator (`digitsAux_spec`). -/
namespace Ftdc

def IsDigit (d : Nat) : Prop := 48 ≤ d ∧ d ≤ 57

theorem isDigit_add {c : Nat} (hc : c < 10) : IsDigit (48 + c) := ⟨by omega, by omega⟩

theorem parseDigits_digit (c x : Nat) (r : Bytes) (hc : c < 10) :
    parseDigits ((48 + c) :: r) x = parseDigits r (x * 10 + c) := by
  rw [parseDigits, if_pos (show _ ∧ _ from isDigit_add hc), Nat.add_sub_cancel_left]

/-- `n < fuel` is what `decimal` provides and what each round keeps (`n / 10 < n`). -/
theorem digitsAux_spec (fuel n : Nat) (acc : List Nat) (hn : n < fuel) :
    ∃ ds, digitsAux fuel n acc = ds ++ acc ∧ ds ≠ [] ∧ (∀ d ∈ ds, IsDigit d) ∧
      ∀ r, parseDigits (ds ++ r) 0 = parseDigits r n := by
  fun_induction digitsAux fuel n acc with
  | case1 => omega
  | case2 f n acc h10 =>
    refine ⟨[48 + n], rfl, by simp, fun d hd => List.mem_singleton.1 hd ▸ isDigit_add h10, fun r => ?_⟩
    rw [List.singleton_append, parseDigits_digit n 0 r h10, Nat.zero_mul, Nat.zero_add]
  | case3 f n acc h10 ih =>
    have h : n % 10 < 10 := Nat.mod_lt _ (by decide)
    have hlt : n / 10 < f := Nat.lt_of_lt_of_le (Nat.div_lt_self (by omega) (by decide)) (Nat.le_of_lt_succ hn)
    obtain ⟨ds, he, _, hdig, hval⟩ := ih hlt
    refine ⟨ds ++ [48 + n % 10], by rw [he]; simp, by simp, fun d hd => ?_, fun r => ?_⟩
    · rcases List.mem_append.1 hd with hd | hd
      · exact hdig d hd
      · exact List.mem_singleton.1 hd ▸ isDigit_add h
    · rw [List.append_assoc, hval, List.singleton_append, parseDigits_digit _ _ r h, Nat.div_add_mod']

/-- `C02.decimal_inj`, `decimal_dotFree` (below) and `decimal_nulfree` (SchemaHash.lean) are read off this. -/
theorem parse_decimal (n : Nat) : parseDigits (decimal n) 0 = some n ∧ decimal n ≠ [] ∧
    (∀ d ∈ decimal n, IsDigit d) := by
  obtain ⟨ds, he, hne, hdig, hval⟩ := digitsAux_spec (n + 1) n [] (Nat.lt_succ_self n)
  rw [decimal, he, List.append_nil]
  exact ⟨by simpa [parseDigits] using hval [], hne, hdig⟩

theorem decimal_digits (n : Nat) : ∀ d ∈ decimal n, IsDigit d := (parse_decimal n).2.2

/-- `C02.DotFree (decimal n)`: an array index holds no separator of `joinDot`, since `.` is 46, below the digits -/
theorem decimal_dotFree (n : Nat) : ∀ b ∈ decimal n, b ≠ dot := fun b hb e =>
  absurd (e ▸ decimal_digits n b hb : IsDigit dot).1 (by decide)

theorem atoi_itoa (v : Int) : atoi (itoa v) = some v := by
  obtain ⟨hp, hne, hdig⟩ := parse_decimal v.natAbs
  unfold itoa
  by_cases hneg : v < 0
  · simp only [hneg, ite_true, atoi, hne, ite_false, hp]
    show some (-(v.natAbs : Int)) = some v
    rw [Int.ofNat_natAbs_of_nonpos (Int.le_of_lt hneg), Int.neg_neg]
  · obtain ⟨d, r, hd⟩ := List.exists_cons_of_ne_nil hne
    obtain ⟨h48, _⟩ : IsDigit d := hdig d (by simp [hd])
    -- the first digit is neither '-' nor '+': the last arm of `atoi`
    rw [if_neg hneg, atoi.eq_4 _ hne (by rw [hd]; rintro _ ⟨⟩; omega) (by rw [hd]; rintro _ ⟨⟩; omega), hp]
    show some (v.natAbs : Int) = some v
    rw [Int.natAbs_of_nonneg (Int.not_lt.1 hneg)]

end Ftdc
