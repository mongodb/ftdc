import FtdcVerif.Model.Uncompressed
/-!
# One-step equations of the uncompressed streaming collectors

`UStreaming.addW` is "flush if full, then hand the sample to the wrapped collector" (`addInner`); the schema-aware
`addW` is "flush if the schema changed, then the streaming `addW`".  `content` (what has been written followed by the
pending samples) obeys the same equations whether or not the writer takes a batch.  The metadata document, if one is
set, is written with every batch: the equations are stated for collectors without one, and each also says what becomes
of `metadata` (`none` again; unchanged by `addInner`), so that the next one applies.
-/
namespace Ftdc.UStreaming

def content (c : UStreaming) : List BDoc := c.written.flatten ++ c.inner.samples

def addInner (c : UStreaming) (d : BDoc) : UStreaming × Bool :=
  if (c.inner.add d).2 = .ok then ({ c with inner := (c.inner.add d).1, count := c.count + 1 }, true)
  else ({ c with inner := (c.inner.add d).1 }, false)

/-- `Streaming.add_cases` without the conditions on `count` -/
theorem addW_cases (c : UStreaming) (d : BDoc) (wok : Bool) :
    (c.addW d wok = c.addInner d) ∨
    ((c.flushW wok).2 = false ∧ c.addW d wok = ((c.flushW wok).1, false)) ∨
    ((c.flushW wok).2 = true ∧ c.addW d wok = (c.flushW wok).1.addInner d) := by
  unfold addW addInner
  by_cases hfull : c.count ≥ c.maxSamples
  · rw [if_pos hfull]
    cases hf : (c.flushW wok).2
    · exact .inr (.inl ⟨rfl, by simp [hf]⟩)
    · exact .inr (.inr ⟨rfl, by simp [hf]⟩)
  · rw [if_neg hfull]
    exact .inl (by simp)

theorem flushW_content (c : UStreaming) (wok : Bool) (hm : c.inner.metadata = none) :
    (c.flushW wok).1.content = c.content ∧ (c.flushW wok).1.inner.metadata = none := by
  fun_cases flushW c wok
  · exact ⟨rfl, hm⟩
  · exact ⟨rfl, hm⟩
  · rename_i docs hr _
    have : docs = c.inner.samples := by
      simp only [resolve, Uncompressed.resolve, hm, Option.toList, List.nil_append] at hr
      split at hr <;> simp_all
    simp [content, reset, Uncompressed.reset, this, hm]
  · exact ⟨rfl, hm⟩

theorem addInner_content (c : UStreaming) (d : BDoc) :
    (c.addInner d).1.content = c.content ++ (if (c.addInner d).2 then [d] else []) ∧
    (c.addInner d).1.inner.metadata = c.inner.metadata := by
  unfold addInner content
  -- a refused `Add` changes `metricCount` and nothing else: that is where this `addInner` differs from `Streaming.addInner`
  fun_cases Uncompressed.add c.inner d <;> simp +zetaDelta

theorem addW_content (c : UStreaming) (d : BDoc) (wok : Bool) (hm : c.inner.metadata = none) :
    (c.addW d wok).1.content = c.content ++ (if (c.addW d wok).2 then [d] else []) ∧
    (c.addW d wok).1.inner.metadata = none := by
  obtain ⟨f1, f2⟩ := flushW_content c wok hm
  rcases addW_cases c d wok with e | ⟨_, e⟩ | ⟨_, e⟩ <;> rw [e]
  · exact ⟨(addInner_content c d).1, (addInner_content c d).2.trans hm⟩
  · simp [f1, f2]
  · exact ⟨by rw [(addInner_content _ d).1, f1], (addInner_content _ d).2.trans f2⟩

end Ftdc.UStreaming

namespace Ftdc.UStreamingDynamic

theorem flushW_fst_s (c : UStreamingDynamic) (wok : Bool) : (c.flushW wok).1.s = (c.s.flushW wok).1 := by
  unfold flushW; dsimp only; split <;> rfl

theorem flushW_content (c : UStreamingDynamic) (wok : Bool) (hm : c.s.inner.metadata = none) :
    (c.flushW wok).1.s.content = c.s.content ∧ (c.flushW wok).1.s.inner.metadata = none := by
  rw [flushW_fst_s]
  exact UStreaming.flushW_content c.s wok hm

/-- the cases of `StreamingDynamic.add_cases`, stated on the two components that `content` and the answer depend on -/
theorem addW_cases (c : UStreamingDynamic) (d : BDoc) (w1 w2 : Bool) :
    (c.addW d w1 w2).1.s = (c.s.addW d w2).1 ∧ (c.addW d w1 w2).2 = (c.s.addW d w2).2 ∨
    (c.addW d w1 w2).1.s = (c.s.flushW w1).1 ∧ (c.addW d w1 w2).2 = false ∨
    (c.addW d w1 w2).1.s = ((c.s.flushW w1).1.addW d w2).1 ∧ (c.addW d w1 w2).2 = ((c.s.flushW w1).1.addW d w2).2 := by
  unfold addW addWWith
  cases c.needFlush d
  · exact .inl ⟨rfl, rfl⟩
  · cases hf : (c.flushW w1).2
    · exact .inr (.inl (by simp [hf, flushW_fst_s]))
    · exact .inr (.inr (by simp [hf, flushW_fst_s]))

theorem addW_content (c : UStreamingDynamic) (d : BDoc) (w1 w2 : Bool) (hm : c.s.inner.metadata = none) :
    (c.addW d w1 w2).1.s.content = c.s.content ++ (if (c.addW d w1 w2).2 then [d] else []) ∧
    (c.addW d w1 w2).1.s.inner.metadata = none := by
  obtain ⟨f1, f2⟩ := UStreaming.flushW_content c.s w1 hm
  rcases addW_cases c d w1 w2 with ⟨e1, e2⟩ | ⟨e1, e2⟩ | ⟨e1, e2⟩ <;> rw [e1, e2]
  · exact UStreaming.addW_content c.s d w2 hm
  · simp [f1, f2]
  · rw [← f1]; exact UStreaming.addW_content _ d w2 f2

end Ftdc.UStreamingDynamic
