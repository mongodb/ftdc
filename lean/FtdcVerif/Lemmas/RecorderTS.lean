import FtdcVerif.Model.RecorderTS
import FtdcVerif.Lemmas.Sched
/-! The invariant of the interval recorders' concurrency skeleton (C16) is mutex clauses, a counter sum and flusher
bookkeeping.  A step moves one goroutine with respect to the mutex (`LockInv.stay`, `.acquire`, `.release`) and does at
most one thing to the bookkeeping (`FlushInv.move`, `.start`, `.cancel`), so `step_inv` is a table with one line per Go
event. -/
namespace Ftdc.RecorderTS

theorem upd_same {α : Type} (f : Nat → α) (i : Nat) (v : α) : upd f i v i = v := by simp [upd]
theorem upd_other {α : Type} (f : Nat → α) (i k : Nat) (v : α) (h : k ≠ i) : upd f i v k = f k := by simp [upd, h]

/-- the goroutine that an `Owner` value names is inside its critical section -/
def InCS (upc : Nat → UPc) (fpc : Nat → FPc) : Owner → Prop
  | .free => False
  | .user i => ∃ op, upc i = .inCS op
  | .flusher j => fpc j = .inCS

def LockInv (o : Owner) (upc : Nat → UPc) (fpc : Nat → FPc) : Prop :=
  ∀ g, g ≠ .free → (InCS upc fpc g ↔ o = g)

structure FlushInv (nflush : Nat) (canceler : Option Nat) (fcancelled : Nat → Bool) (fpc : Nat → FPc) : Prop where
  one_active : ∀ k, k < nflush → fcancelled k = false → canceler = some k
  canceler_lt : ∀ j, canceler = some j → j < nflush ∧ fcancelled j = false
  not_started : ∀ k, nflush ≤ k → fpc k = .none ∧ fcancelled k = false

/-! `fixed`: the flusher is the repaired one.  `owner_user` to `flusher_cs`: a goroutine is inside its critical section
iff it owns the mutex (`LockInv`).  `sum`: every increment whose call has completed is in the counter or was handed to
the collector (Reset takes what it discards out of `issued`).  `one_active`, `canceler_lt`, `not_started`: the flushers
started are those below `nflush`, and the only one of them not cancelled is the one `r.canceler` names (`FlushInv`). -/
structure Inv (s : St) : Prop where
  fixed : s.fixed = true
  owner_user : ∀ i, s.owner = .user i → ∃ op, s.upc i = .inCS op
  owner_flusher : ∀ j, s.owner = .flusher j → s.fpc j = .inCS
  user_cs : ∀ i op, s.upc i = .inCS op → s.owner = .user i
  flusher_cs : ∀ j, s.fpc j = .inCS → s.owner = .flusher j
  sum : s.counter + s.persisted = s.issued
  one_active : ∀ k, k < s.nflush → s.fcancelled k = false → s.canceler = some k
  canceler_lt : ∀ j, s.canceler = some j → j < s.nflush ∧ s.fcancelled j = false
  not_started : ∀ k, s.nflush ≤ k → s.fpc k = .none ∧ s.fcancelled k = false

theorem init_inv : Inv (init true) := by
  constructor <;> simp [init]

theorem Inv.lock {s : St} (h : Inv s) : LockInv s.owner s.upc s.fpc := by
  intro g hg
  cases g with
  | free => exact absurd rfl hg
  | user i => exact ⟨fun ⟨op, hi⟩ => h.user_cs i op hi, h.owner_user i⟩
  | flusher j => exact ⟨h.flusher_cs j, h.owner_flusher j⟩

theorem Inv.flush {s : St} (h : Inv s) : FlushInv s.nflush s.canceler s.fcancelled s.fpc :=
  ⟨h.one_active, h.canceler_lt, h.not_started⟩

theorem Inv.of_parts {s : St} (hf : s.fixed = true) (L : LockInv s.owner s.upc s.fpc)
    (hsum : s.counter + s.persisted = s.issued) (F : FlushInv s.nflush s.canceler s.fcancelled s.fpc) : Inv s :=
  ⟨hf, fun i ho => (L (.user i) nofun).2 ho, fun j ho => (L (.flusher j) nofun).2 ho,
    fun i op hi => (L (.user i) nofun).1 ⟨op, hi⟩, fun j hj => (L (.flusher j) nofun).1 hj,
    hsum, F.one_active, F.canceler_lt, F.not_started⟩

/-! Only goroutine `g` moves with respect to the mutex: it stays inside or outside, or takes the free mutex and is inside
afterwards, or owns the mutex, frees it and is outside afterwards.  `hoth`: the others are where they were.  In `stay`,
`hoth` and `hg` together say `∀ x`; they stand apart so that `inCS_upd_upc i` or `inCS_upd_fpc j` is passed for `hoth`
as it is. -/
theorem LockInv.stay {o : Owner} {upc upc' : Nat → UPc} {fpc fpc' : Nat → FPc} (L : LockInv o upc fpc) (g : Owner)
    (hoth : ∀ x, x ≠ g → (InCS upc' fpc' x ↔ InCS upc fpc x)) (hg : InCS upc' fpc' g ↔ InCS upc fpc g) :
    LockInv o upc' fpc' := by
  intro x hx
  by_cases e : x = g
  · subst e; rw [hg]; exact L _ hx
  · rw [hoth x e]; exact L x hx

theorem LockInv.acquire {o : Owner} {upc upc' : Nat → UPc} {fpc fpc' : Nat → FPc} (L : LockInv o upc fpc) (g : Owner)
    (ho : o = .free) (hoth : ∀ x, x ≠ g → (InCS upc' fpc' x ↔ InCS upc fpc x)) (hg : InCS upc' fpc' g) :
    LockInv g upc' fpc' := by
  intro x hx
  by_cases e : x = g
  · subst e; exact ⟨fun _ => rfl, fun _ => hg⟩
  · rw [hoth x e, L x hx, ho]; exact ⟨fun h => absurd h.symm hx, fun h => absurd h.symm e⟩

theorem LockInv.release {o : Owner} {upc upc' : Nat → UPc} {fpc fpc' : Nat → FPc} (L : LockInv o upc fpc) (g : Owner)
    (ho : o = g) (hoth : ∀ x, x ≠ g → (InCS upc' fpc' x ↔ InCS upc fpc x)) (hg : ¬InCS upc' fpc' g) :
    LockInv .free upc' fpc' := by
  intro x hx
  by_cases e : x = g
  · subst e; exact ⟨fun h => absurd h hg, fun h => absurd h.symm hx⟩
  · rw [hoth x e, L x hx, ho]; exact ⟨fun h => absurd h.symm e, fun h => absurd h.symm hx⟩

theorem inCS_upd_upc {upc : Nat → UPc} {fpc : Nat → FPc} (i : Nat) {v : UPc} (x : Owner) (hx : x ≠ .user i) :
    InCS (upd upc i v) fpc x ↔ InCS upc fpc x := by
  cases x with
  | user k => simp only [InCS, upd_other upc i k v fun e => hx (e ▸ rfl)]
  | _ => exact Iff.rfl

theorem inCS_upd_fpc {upc : Nat → UPc} {fpc : Nat → FPc} (j : Nat) {v : FPc} (x : Owner) (hx : x ≠ .flusher j) :
    InCS upc (upd fpc j v) x ↔ InCS upc fpc x := by
  cases x with
  | flusher k => simp only [InCS, upd_other fpc j k v fun e => hx (e ▸ rfl)]
  | _ => exact Iff.rfl

theorem FlushInv.move {n : Nat} {c : Option Nat} {fc : Nat → Bool} {fpc : Nat → FPc} (F : FlushInv n c fc fpc)
    (j : Nat) (hj : fpc j ≠ .none) (pc : FPc) : FlushInv n c fc (upd fpc j pc) := by
  refine ⟨F.one_active, F.canceler_lt, fun k hk => ?_⟩
  have e : k ≠ j := fun e => hj (e ▸ (F.not_started k hk).1)
  rw [upd_other fpc j k pc e]; exact F.not_started k hk

theorem FlushInv.start {n : Nat} {fc : Nat → Bool} {fpc : Nat → FPc} (F : FlushInv n none fc fpc) :
    FlushInv (n + 1) (some n) fc (upd fpc n .waitTick) := by
  refine ⟨fun k hk hck => ?_, fun j hj => ?_, fun k hk => ?_⟩
  · rcases Nat.lt_succ_iff_lt_or_eq.1 hk with hk | rfl
    · exact nomatch F.one_active k hk hck
    · rfl
  · cases hj; exact ⟨Nat.lt_succ_self n, (F.not_started n (Nat.le_refl n)).2⟩
  · rw [upd_other fpc n k .waitTick (Nat.ne_of_gt hk)]; exact F.not_started k (Nat.le_of_succ_le hk)

theorem FlushInv.cancel {n : Nat} {c : Option Nat} {fc : Nat → Bool} {fpc : Nat → FPc} (F : FlushInv n c fc fpc) :
    FlushInv n none (match (generalizing := false) c with | some j => upd fc j true | none => fc) fpc := by
  cases c with
  | none => exact F
  | some j =>
    show FlushInv n none (upd fc j true) fpc
    refine ⟨fun k hk hck => ?_, nofun, fun k hk => ⟨(F.not_started k hk).1, ?_⟩⟩
    · by_cases e : k = j
      · rw [e, upd_same] at hck; exact nomatch hck
      · -- otherwise `k` is uncancelled in `fc` too, so it is the flusher the canceler names: `some j = some k`
        rw [upd_other fc j k true e] at hck
        exact absurd (Option.some.inj (F.one_active k hk hck)).symm e
    · have hkj : k ≠ j := Nat.ne_of_gt (Nat.lt_of_lt_of_le (F.canceler_lt j rfl).1 hk)  -- `j < n ≤ k`
      rw [upd_other fc j k true hkj]
      exact (F.not_started k hk).2

theorem step_inv (s : St) (a : Act) (s' : St) (h : Inv s) (hs : step s a = some s') : Inv s' := by
  have sum := h.sum
  -- a user leaves its critical section and frees the mutex
  have urel (i : Nat) (op : Op) (hu : s.upc i = .inCS op) : LockInv .free (upd s.upc i .idle) s.fpc :=
    h.lock.release (.user i) (h.user_cs i op hu) (inCS_upd_upc i) (by simp [InCS, upd_same])
  -- a flusher moves outside its critical section
  have ftick (j : Nat) (pc : FPc) (hp : s.fpc j = .waitTick) (hpc : pc ≠ .inCS) :
      Inv { s with fpc := upd s.fpc j pc } :=
    .of_parts h.fixed (h.lock.stay (.flusher j) (inCS_upd_fpc j) (by simpa [InCS, upd_same, hp] using hpc)) sum
      (h.flush.move j (by rw [hp]; nofun) pc)
  -- a flusher leaves its critical section and frees the mutex
  have fleave (j : Nat) (pc : FPc) (hp : s.fpc j = .inCS) (hpc : pc ≠ .inCS) :
      Inv { s with owner := .free, fpc := upd s.fpc j pc } :=
    .of_parts h.fixed
      (h.lock.release (.flusher j) (h.flusher_cs j hp) (inCS_upd_fpc j) (by simpa [InCS, upd_same] using hpc)) sum
      (h.flush.move j (by rw [hp]; nofun) pc)
  revert hs
  -- one arm per enabled transition, in the order of the model's `step`
  fun_cases step s a <;> intro hs <;> first | cases hs | (injection hs with hs; subst hs)
  next i op hidle =>  -- a call is announced
    exact .of_parts h.fixed (h.lock.stay (.user i) (inCS_upd_upc i) (by simp [InCS, upd_same, hidle])) sum h.flush
  next i op _ hfree =>  -- a user takes the mutex
    exact .of_parts h.fixed (h.lock.acquire (.user i) hfree (inCS_upd_upc i) ⟨op, upd_same _ _ _⟩) sum h.flush
  next i _ v hu =>  -- increment
    exact .of_parts h.fixed (urel i _ hu)
      (by show s.counter + v + s.persisted = s.issued + v; rw [← sum, Int.add_right_comm]) h.flush
  next i _ _ _ hu =>  -- BeginIteration, the flusher exists
    exact .of_parts h.fixed (urel i _ hu) sum h.flush
  next i _ hc hu =>  -- BeginIteration starts a flusher
    have F := h.flush
    rw [hc] at F
    exact .of_parts h.fixed ((urel i _ hu).stay (.flusher s.nflush) (inCS_upd_fpc _)
      (by simp [InCS, upd_same, (h.not_started _ (Nat.le_refl _)).1])) sum F.start
  next i _ hu =>  -- EndTest
    exact .of_parts h.fixed (urel i _ hu)
      (by show (0 : Int) + (s.persisted + s.counter) = s.issued; rw [Int.zero_add, Int.add_comm, sum])
      h.flush.cancel
  next i _ hu =>  -- Reset
    exact .of_parts h.fixed (urel i _ hu)
      (by show (0 : Int) + s.persisted = s.issued - s.counter
          rw [← sum, Int.zero_add, Int.add_comm, Int.add_sub_cancel])
      h.flush.cancel
  next j hp _ => exact ftick j _ hp nofun  -- the tick loop: return on a cancelled context,
  next j hp _ => exact ftick j _ hp nofun  -- else wait for the mutex
  next j hp hfree =>  -- the flusher takes the mutex
    exact .of_parts h.fixed (h.lock.acquire (.flusher j) hfree (inCS_upd_fpc j) (upd_same _ _ _)) sum
      (h.flush.move j (by rw [hp]; nofun) _)
  next j hp _ _ => exact fleave j _ hp nofun  -- inside, cancelled: the repaired flusher unlocks and returns;
  next _ _ _ hnf => exact absurd h.fixed hnf  -- the flusher that returns without unlocking is excluded by `fixed`
  next j hp _ => exact fleave j _ hp nofun  -- inside, not cancelled: persist and unlock

theorem step_call (s s' : St) (i : Nat) (op : Op) (h : Inv s) (hs : step s (.call i op) = some s') : Inv s' :=
  step_inv s (.call i op) s' h hs

theorem step_user (s s' : St) (i : Nat) (h : Inv s) (hs : step s (.user i) = some s') : Inv s' :=
  step_inv s (.user i) s' h hs

theorem step_flusher (s s' : St) (j : Nat) (h : Inv s) (hs : step s (.flusher j) = some s') : Inv s' :=
  step_inv s (.flusher j) s' h hs

theorem run_inv (sched : List Act) : ∀ (s : St), Inv s → Inv (run s sched) :=
  Sched.foldl_inv step_inv sched

end Ftdc.RecorderTS
