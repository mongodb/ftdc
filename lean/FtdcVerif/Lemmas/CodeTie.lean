/-
  The generated code (Gen/Code.lean, rewritten from /repo's Go source by harness/cmd/extract on every run)
  computes what the hand-written model computes.  A change of the Go text changes a definition below
  `Ftdc.Gen`, and these theorems are re-checked against it.
-/
import FtdcVerif.Gen.Code
import FtdcVerif.Model.Hdr
import FtdcVerif.Lemmas.Hdr
import FtdcVerif.Lemmas.HdrRank
import FtdcVerif.Model.Events

namespace Ftdc.CodeTie
open Ftdc

/-! ### casts

A Go operation on casts of naturals is the cast of the operation: with these and core's `Int.natCast_add`,
`Int.natCast_shiftRight`, `Int.natCast_shiftLeft` (read right to left) under `simp only`, a translated definition
(over `Int`) unfolds to the cast of the model's (over `Nat`). -/

theorem cast_add_lit (a k : Nat) : (a : Int) + (no_index (OfNat.ofNat k)) = ((a + OfNat.ofNat k : Nat) : Int) := rfl
theorem cast_ite (c : Prop) [Decidable c] (a b : Nat) :
    (if c then (a : Int) else (b : Int)) = ((if c then a else b : Nat) : Int) := (apply_ite _ _ _ _).symm
/-- comparison with a numeral (`Int.ofNat_le` does it for two variables) -/
theorem lit_le_cast (c x : Nat) : ((no_index (OfNat.ofNat c) : Int) ≤ (x : Int)) ↔ (OfNat.ofNat c : Nat) ≤ x :=
  Int.ofNat_le

/-! ### `bitLen` -/

theorem bitLen_loop (fuel : Nat) : ∀ (x n : Nat),
    Gen.Hdr.bitLen_loop1 fuel (n : Int) (x : Int) =
      (((Hdr.bitLenLoop fuel x n).2 : Int), ((Hdr.bitLenLoop fuel x n).1 : Int)) := by
  induction fuel with
  | zero => intro x n; rfl
  | succ f ih =>
    intro x n
    simp only [Gen.Hdr.bitLen_loop1, Hdr.bitLenLoop, ge_iff_le, Int.reduceToNat, ← Int.natCast_shiftRight, lit_le_cast]
    split
    · exact ih (x >>> 16) (n + 16)
    · rfl

theorem bitLen_tie (x : Nat) : Gen.Hdr.bitLen (x : Int) = (Hdr.bitLen x : Int) := by
  simp only [Gen.Hdr.bitLen, Hdr.bitLen, Hdr.bitLenTail, ← Int.natCast_zero, bitLen_loop, ge_iff_le, Int.reduceToNat,
    apply_ite Prod.fst, apply_ite Prod.snd, ← Int.natCast_shiftRight, cast_add_lit, cast_ite, lit_le_cast]

/-! ### `|` on non-negative operands below 2^63 -/

theorem or_tie (a b : Nat) (ha : a < 2 ^ 63) (hb : b < 2 ^ 63) :
    Gen.Go.or (a : Int) (b : Int) = ((a ||| b : Nat) : Int) := by
  have hab : a ||| b < 2 ^ 63 := Nat.or_lt_two_pow ha hb
  unfold Gen.Go.or
  rw [BitVec.ofInt_natCast, BitVec.ofInt_natCast, ← BitVec.ofNat_or, BitVec.toInt_ofNat']
  exact Int.bmod_eq_of_le (by omega) (by omega)

/-- the Go struct a model histogram stands for (counts and total included) -/
def cfgOf (h : Hdr.Hist) : Gen.Hdr.Histogram :=
  { lowestTrackableValue := h.lowest, highestTrackableValue := h.highest, unitMagnitude := h.unitMag,
    significantFigures := h.sigfigs, subBucketHalfCountMagnitude := h.halfMag, subBucketHalfCount := h.halfCount,
    subBucketMask := h.mask, subBucketCount := h.subCount, bucketCount := h.bucketCount, countsLen := h.countsLen,
    totalCount := h.total, counts := h.counts }

theorem cfg_um (h : Hdr.Hist) : (cfgOf h).unitMagnitude = (h.unitMag : Int) := rfl
theorem cfg_hm (h : Hdr.Hist) : (cfgOf h).subBucketHalfCountMagnitude = (h.halfMag : Int) := rfl
theorem cfg_mask (h : Hdr.Hist) : (cfgOf h).subBucketMask = (h.mask : Int) := rfl
theorem cfg_sc (h : Hdr.Hist) : (cfgOf h).subBucketCount = (h.subCount : Int) := rfl
theorem cfg_hc (h : Hdr.Hist) : (cfgOf h).subBucketHalfCount = (h.halfCount : Int) := rfl
theorem cfg_bc (h : Hdr.Hist) : (cfgOf h).bucketCount = (h.bucketCount : Int) := rfl
theorem cfg_tot (h : Hdr.Hist) : (cfgOf h).totalCount = h.total := rfl

/-! ### 32-bit arithmetic: `Go.w32` is the identity on what fits an `int32` -/

theorem w32_of_range (x : Int) (h1 : -2 ^ 31 ≤ x) (h2 : x < 2 ^ 31) : Gen.Go.w32 x = x := by
  unfold Gen.Go.w32
  rw [BitVec.toInt_ofInt]
  apply Int.bmod_eq_of_le <;> omega

theorem w32_nat (n : Nat) (h : n < 2 ^ 31) : Gen.Go.w32 (n : Int) = n := w32_of_range _ (by omega) (by omega)

/-- the translated `getSubBucketIdx` narrows to `int32`: it is the model's as long as the shifted value fits 31 bits -/
theorem getSubBucketIdx_tie (h : Hdr.Hist) (v b : Nat) (hlt : v >>> (b + h.unitMag) < 2 ^ 31) :
    Gen.Hdr.getSubBucketIdx (cfgOf h) v b = (Hdr.getSubBucketIdx h v b : Int) := by
  simp only [Gen.Hdr.getSubBucketIdx, Hdr.getSubBucketIdx, cfg_um, ← Int.natCast_add, Int.toNat_natCast, ← Int.natCast_shiftRight]
  exact w32_nat _ hlt

theorem valueFromIndex_tie (h : Hdr.Hist) (b s : Nat) :
    Gen.Hdr.valueFromIndex (cfgOf h) b s = (Hdr.valueFromIndex h b s : Int) := by
  simp only [Gen.Hdr.valueFromIndex, Hdr.valueFromIndex, cfg_um, ← Int.natCast_add, Int.toNat_natCast, ← Int.natCast_shiftLeft]

/-- `countsIndex` is all `int32` arithmetic: exact for bucket indexes up to 64, sub-bucket indexes below 2^30 and at
most 2^21 sub-buckets (five significant figures need 2^18) -/
theorem countsIndex_tie (h : Hdr.Hist) (b s : Nat) (hb : b ≤ 64) (hs : s < 2 ^ 30) (hh : h.halfMag ≤ 20)
    (hc : h.halfCount = 2 ^ h.halfMag) :
    Gen.Hdr.countsIndex (cfgOf h) b s = Hdr.countsIndex h b s := by
  have hp : 2 ^ h.halfMag ≤ 2 ^ 20 := Nat.pow_le_pow_right (by omega) hh
  have hsh : (b + 1) <<< h.halfMag ≤ 65 * 2 ^ 20 := by
    rw [Nat.shiftLeft_eq]; exact Nat.mul_le_mul (by omega) hp
  have h0 : (0 : Int) ≤ ((b + 1) <<< h.halfMag : Nat) := Int.natCast_nonneg _
  simp (disch := omega) only [Gen.Hdr.countsIndex, Hdr.countsIndex, cfg_hm, cfg_hc, Int.toNat_natCast, cast_add_lit,
    ← Int.natCast_shiftLeft, w32_of_range]

theorem getCountAtIndex_tie (h : Hdr.Hist) (b s : Nat) (hb : b ≤ 64) (hs : s < 2 ^ 30) (hh : h.halfMag ≤ 20)
    (hc : h.halfCount = 2 ^ h.halfMag) :
    Gen.Hdr.getCountAtIndex (cfgOf h) b s = Hdr.getCountAt h b s := by
  simp only [Gen.Hdr.getCountAtIndex, Hdr.getCountAt, Gen.Go.index, countsIndex_tie h b s hb hs hh hc]
  rfl

section wf
variable {h : Hdr.Hist} (wf : Hdr.WF h)
include wf

theorem bitLen_bounds (v : Nat) (hv : v < 2 ^ 63) :
    h.unitMag + (h.halfMag + 1) ≤ Hdr.bitLen (v ||| h.mask) ∧ Hdr.bitLen (v ||| h.mask) ≤ 64 := by
  have hor : v ||| h.mask < 2 ^ 64 :=
    Nat.lt_of_lt_of_le (Nat.or_lt_two_pow hv (Hdr.mask_lt wf)) (Nat.pow_le_pow_right (by omega) (by omega))
  rw [Hdr.bitLen_eq_blen _ hor]
  exact ⟨by rw [Hdr.blen_or, Hdr.blen_mask wf, Nat.add_comm]; exact Nat.le_max_right .., Hdr.blen_le_iff.2 hor⟩

theorem getBucketIndex_tie (v : Nat) (hv : v < 2 ^ 63) (hh : h.halfMag ≤ 20) :
    Gen.Hdr.getBucketIndex (cfgOf h) v = (Hdr.getBucketIndex h v : Int) := by
  obtain ⟨hge, hle⟩ := bitLen_bounds wf v hv
  simp (disch := omega) only [Gen.Hdr.getBucketIndex, Hdr.getBucketIndex, cfg_um, cfg_hm, cfg_mask,
    or_tie v h.mask hv (Hdr.mask_lt wf), bitLen_tie, cast_add_lit, w32_of_range]
  omega

theorem getBucketIndex_le (v : Nat) (hv : v < 2 ^ 63) : Hdr.getBucketIndex h v ≤ 64 :=
  Nat.le_trans (Nat.le_trans (Nat.sub_le _ _) (Nat.sub_le _ _)) (bitLen_bounds wf v hv).2

theorem subBucket_lt (v : Nat) (hv : v < 2 ^ 63) :
    v >>> (Hdr.getBucketIndex h v + h.unitMag) < 2 ^ (h.halfMag + 1) :=
  Hdr.subBucket_lt wf (show v < 2 ^ 64 by omega)

theorem subBucket_lt30 (v : Nat) (hv : v < 2 ^ 63) (hh : h.halfMag ≤ 20) :
    v >>> (Hdr.getBucketIndex h v + h.unitMag) < 2 ^ 30 :=
  Nat.lt_of_lt_of_le (subBucket_lt wf v hv) (Nat.pow_le_pow_right (by omega) (by omega))

theorem countsIndexFor_tie (v : Nat) (hv : v < 2 ^ 63) (hh : h.halfMag ≤ 20) :
    Gen.Hdr.countsIndexFor (cfgOf h) v = Hdr.countsIndexFor h v := by
  have hs := subBucket_lt30 wf v hv hh
  simp only [Gen.Hdr.countsIndexFor, Hdr.countsIndexFor, getBucketIndex_tie wf v hv hh,
    getSubBucketIdx_tie h v (Hdr.getBucketIndex h v) (Nat.lt_trans hs (by omega))]
  exact countsIndex_tie h _ _ (getBucketIndex_le wf v hv) hs hh wf.halfCount_eq

theorem lowestEquivalentValue_tie (v : Nat) (hv : v < 2 ^ 63) (hh : h.halfMag ≤ 20) :
    Gen.Hdr.lowestEquivalentValue (cfgOf h) v = (Hdr.lowestEquiv h v : Int) := by
  have hs := subBucket_lt30 wf v hv hh
  simp only [Gen.Hdr.lowestEquivalentValue, Hdr.lowestEquiv, getBucketIndex_tie wf v hv hh,
    getSubBucketIdx_tie h v (Hdr.getBucketIndex h v) (Nat.lt_trans hs (by omega)), valueFromIndex_tie]

theorem sizeOfEquivalentValueRange_tie (v : Nat) (hv : v < 2 ^ 63) (hh : h.halfMag ≤ 20) :
    Gen.Hdr.sizeOfEquivalentValueRange (cfgOf h) v = (Hdr.sizeOfRange h v : Int) := by
  have hs30 := subBucket_lt30 wf v hv hh
  have hb64 := getBucketIndex_le wf v hv
  simp (disch := omega) only [Gen.Hdr.sizeOfEquivalentValueRange, Hdr.sizeOfRange, getBucketIndex_tie wf v hv hh,
    getSubBucketIdx_tie h v _ (Nat.lt_trans hs30 (by omega)), cfg_sc, cfg_um, ge_iff_le, Int.ofNat_le, cast_add_lit,
    w32_of_range, cast_ite, ← Int.natCast_add, Int.toNat_natCast]

theorem nextNonEquivalentValue_tie (v : Nat) (hv : v < 2 ^ 63) (hh : h.halfMag ≤ 20) :
    Gen.Hdr.nextNonEquivalentValue (cfgOf h) v = (Hdr.nextNonEquiv h v : Int) := by
  simp only [Gen.Hdr.nextNonEquivalentValue, Hdr.nextNonEquiv, lowestEquivalentValue_tie wf v hv hh,
    sizeOfEquivalentValueRange_tie wf v hv hh, Int.natCast_add]

theorem highestEquivalentValue_tie (v : Nat) (hv : v < 2 ^ 63) (hh : h.halfMag ≤ 20) :
    Gen.Hdr.highestEquivalentValue (cfgOf h) v = (Hdr.highestEquiv h v : Int) := by
  have := Hdr.sizeOfRange_pos (h := h) v
  simp only [Gen.Hdr.highestEquivalentValue, Hdr.highestEquiv, nextNonEquivalentValue_tie wf v hv hh, Hdr.nextNonEquiv]
  exact (Int.natCast_sub (Nat.add_pos_right _ this)).symm

theorem medianEquivalentValue_tie (v : Nat) (hv : v < 2 ^ 63) (hh : h.halfMag ≤ 20) :
    Gen.Hdr.medianEquivalentValue (cfgOf h) v = (Hdr.medianEquiv h v : Int) := by
  simp only [Gen.Hdr.medianEquivalentValue, Hdr.medianEquiv, lowestEquivalentValue_tie wf v hv hh,
    sizeOfEquivalentValueRange_tie wf v hv hh, Int.natCast_add, Int.reduceToNat, ← Int.natCast_shiftRight]

end wf

/-! ### the iterator: `next`, `Max`, `Min` -/

/-- the Go iterator at a position of the model's walk -/
def itOf (h : Hdr.Hist) (b : Nat) (s ca ct vf hi : Int) : Gen.Hdr.iterator :=
  { h := cfgOf h, bucketIdx := b, subBucketIdx := s, countAtIdx := ca, countToIdx := ct, valueFromIdx := vf,
    highestEquivalentValue := hi }

theorem next_mk (H : Gen.Hdr.Histogram) (b s ca ct vf hi : Int) (hct : ¬ ct ≥ H.totalCount) :
    Gen.Hdr.next ⟨H, b, s, ca, ct, vf, hi⟩ =
      (let c := Gen.Go.w32 (s + 1) ≥ H.subBucketCount
       let b' := if c then Gen.Go.w32 (b + 1) else b
       let s' := if c then H.subBucketHalfCount else Gen.Go.w32 (s + 1)
       if b' ≥ H.bucketCount then (false, ⟨H, b', s', ca, ct, vf, hi⟩)
       else (true, ⟨H, b', s', Gen.Hdr.getCountAtIndex H b' s', ct + Gen.Hdr.getCountAtIndex H b' s',
         Gen.Hdr.valueFromIndex H b' s', Gen.Hdr.highestEquivalentValue H (Gen.Hdr.valueFromIndex H b' s')⟩)) := by
  unfold Gen.Hdr.next
  rw [if_neg hct]
  dsimp only
  by_cases hc : Gen.Go.w32 (s + 1) ≥ H.subBucketCount
  · simp only [hc, if_true]
  · simp only [hc, if_false]

theorem next_stop (i : Gen.Hdr.iterator) (hct : i.countToIdx ≥ i.h.totalCount) : Gen.Hdr.next i = (false, i) := by
  unfold Gen.Hdr.next; rw [if_pos hct]

/-- one step of hdr.go's `iterator.next`, translated, is one step of the model's walk (`iterFrom`): it stops exactly
when the model's list ends, and otherwise moves to the model's next position with the same count, running count, value
and highest equivalent value (`next_cases` is the form the loops use).  `hb` is `≤`, not `<`: it serves only to make
`b + 1` fit an `int32`. -/
theorem next_tie {h : Hdr.Hist} (wf : Hdr.WF h) (hh : h.halfMag ≤ 20) (fuel b : Nat) (s ct ca vf hi : Int)
    (hs1 : -1 ≤ s) (hs2 : s < h.subCount) (hb : b ≤ h.bucketCount) :
    match Hdr.iterFrom (fuel + 1) h b s ct with
    | [] => (Gen.Hdr.next (itOf h b s ca ct vf hi)).1 = false
    | p :: _ => Gen.Hdr.next (itOf h b s ca ct vf hi) =
        (true, itOf h p.b p.s p.countAt p.countTo p.valueFrom p.highest) := by
  have hp : h.subCount ≤ 2 ^ 21 := wf.subCount_eq ▸ Nat.pow_le_pow_right (by omega) (by omega)
  have hbc : h.bucketCount ≤ 63 := Nat.le_trans (Nat.le_add_left _ _) wf.bits
  have hhl := Hdr.halfCount_lt wf
  obtain ⟨n, rfl⟩ : ∃ n : Nat, s = (n : Int) - 1 :=
    ⟨(s + 1).toNat, by rw [Int.toNat_of_nonneg (by omega), Int.add_sub_cancel]⟩
  by_cases h1 : ct ≥ h.total
  · rw [next_stop _ h1, Hdr.iterFrom, if_pos h1]
  have hS : (if h.subCount ≤ n then h.halfCount else n) < h.subCount := by split <;> omega
  -- the translated step is set aside as `X` and brought into the model's terms in `hX` (to bucket `B`, sub-bucket `S`),
  -- so that the `simp only` that unfolds the model's step in the goal does not touch it
  generalize hX : Gen.Hdr.next (itOf h b (n - 1) ca ct vf hi) = X
  rw [itOf, next_mk _ _ _ _ _ _ _ h1, Int.sub_add_cancel, w32_nat n (by omega), cast_add_lit, w32_nat (b + 1) (by omega)] at hX
  simp only [cfg_sc, cfg_hc, cfg_bc, ge_iff_le, Int.ofNat_le, cast_ite] at hX
  simp only [Hdr.iterFrom, h1, if_false, Int.sub_add_cancel, ge_iff_le, Int.ofNat_le, cast_ite, apply_ite Prod.fst, apply_ite Prod.snd,
    Int.toNat_natCast]
  generalize (if h.subCount ≤ n then b + 1 else b) = B at hX ⊢
  generalize (if h.subCount ≤ n then h.halfCount else n) = S at hS hX ⊢
  subst hX
  by_cases h3 : h.bucketCount ≤ B
  · simp only [h3, if_true]
  · have hv63 : Hdr.valueFromIndex h B S < 2 ^ 63 :=
      Nat.lt_of_lt_of_le (Hdr.valueFromIndex_lt_cap wf (Nat.lt_of_not_le h3) hS) (Hdr.cap_le wf)
    simp only [h3, if_false, itOf, valueFromIndex_tie, getCountAtIndex_tie h B S (by omega) (by omega) hh wf.halfCount_eq,
      highestEquivalentValue_tie wf _ hv63 hh]

/-! ### the walk as a list: `iterFrom`, one element at a time -/

/-- the bounds on the head of the walk that `next_tie` needs for the next round (`Hdr.ValidPos` without its upper-half
clause); `vf`, `hi` are not used -/
structure PosOk (h : Hdr.Hist) (p : Hdr.IterPos) : Prop where
  b : p.b < h.bucketCount
  s : p.s < h.subCount
  vf : p.valueFrom = Hdr.valueFromIndex h p.b p.s
  hi : p.highest = Hdr.highestEquiv h p.valueFrom

theorem iterFrom_cons {h : Hdr.Hist} (wf : Hdr.WF h) (fuel b : Nat) (s ct : Int) (hs1 : -1 ≤ s) (hs2 : s < h.subCount)
    (p : Hdr.IterPos) (rest : List Hdr.IterPos) (he : Hdr.iterFrom (fuel + 1) h b s ct = p :: rest) :
    rest = Hdr.iterFrom fuel h p.b (p.s : Int) p.countTo ∧ PosOk h p := by
  have hhl := Hdr.halfCount_lt wf
  rw [Hdr.iterFrom] at he
  dsimp only at he
  generalize hbs : (if s + 1 ≥ (h.subCount : Int) then (b + 1, (h.halfCount : Int)) else (b, s + 1)) = bs at he
  have hs0 : 0 ≤ bs.2 ∧ bs.2 < (h.subCount : Int) := by
    subst hbs
    split
    · exact ⟨Int.natCast_nonneg _, Int.ofNat_lt.2 hhl⟩
    · omega
  by_cases h1 : ct ≥ h.total
  · rw [if_pos h1] at he; cases he
  by_cases h2 : bs.1 ≥ h.bucketCount
  · rw [if_neg h1, if_pos h2] at he; cases he
  rw [if_neg h1, if_neg h2] at he
  injection he with hp hr
  subst hp
  exact ⟨by rw [← hr, Int.toNat_of_nonneg hs0.1], Nat.lt_of_not_ge h2, (Int.toNat_lt hs0.1).2 hs0.2, rfl, rfl⟩

/-- `next_tie` and `iterFrom_cons` together: the form the loops use -/
theorem next_cases {h : Hdr.Hist} (wf : Hdr.WF h) (hh : h.halfMag ≤ 20) (fuel b : Nat) (s ct ca vf hi : Int)
    (hs1 : -1 ≤ s) (hs2 : s < h.subCount) (hb : b ≤ h.bucketCount) :
    (Hdr.iterFrom (fuel + 1) h b s ct = [] ∧ (Gen.Hdr.next (itOf h b s ca ct vf hi)).1 = false) ∨
    ∃ p, Hdr.iterFrom (fuel + 1) h b s ct = p :: Hdr.iterFrom fuel h p.b p.s p.countTo ∧
      Gen.Hdr.next (itOf h b s ca ct vf hi) = (true, itOf h p.b p.s p.countAt p.countTo p.valueFrom p.highest) ∧
      -1 ≤ (p.s : Int) ∧ (p.s : Int) < h.subCount ∧ p.b ≤ h.bucketCount := by
  have hn := next_tie wf hh fuel b s ct ca vf hi hs1 hs2 hb
  cases he : Hdr.iterFrom (fuel + 1) h b s ct with
  | nil => rw [he] at hn; exact Or.inl ⟨rfl, hn⟩
  | cons p rest =>
    rw [he] at hn
    obtain ⟨hrest, ok⟩ := iterFrom_cons wf fuel b s ct hs1 hs2 p rest he
    exact Or.inr ⟨p, by rw [hrest], hn, by omega, Int.ofNat_lt.2 ok.s, Nat.le_of_lt ok.b⟩

theorem Max_loop_tie {h : Hdr.Hist} (wf : Hdr.WF h) (hh : h.halfMag ≤ 20) : ∀ (fuel b : Nat) (s ct ca vf hi : Int) (m : Nat),
    -1 ≤ s → s < h.subCount → b ≤ h.bucketCount →
    (Gen.Hdr.Max_loop1 fuel (itOf h b s ca ct vf hi) (m : Int)).2 =
      (((Hdr.iterFrom fuel h b s ct).foldl (fun m p => if p.countAt ≠ 0 then p.highest else m) m : Nat) : Int) := by
  intro fuel
  induction fuel with
  | zero => intro b s ct ca vf hi m _ _ _; rfl
  | succ f ih =>
    intro b s ct ca vf hi m hs1 hs2 hb
    unfold Gen.Hdr.Max_loop1
    rcases next_cases wf hh f b s ct ca vf hi hs1 hs2 hb with ⟨he, hn⟩ | ⟨p, he, hn, p1, p2, p3⟩
    · rw [he]
      dsimp only
      rw [hn]; rfl
    · rw [he, hn]
      by_cases hc : p.countAt = 0
      · simp only [if_true, List.foldl_cons, itOf, hc, ne_eq, not_true_eq_false, if_false]
        exact ih p.b p.s p.countTo 0 p.valueFrom p.highest m p1 p2 p3
      · simp only [if_true, List.foldl_cons, itOf, hc, ne_eq, not_false_eq_true]
        exact ih p.b p.s p.countTo p.countAt p.valueFrom p.highest p.highest p1 p2 p3

/-- hdr.go's `Max`, translated, is the model's `maxV`, both with `countsLen + 2` rounds (that the walk ends by itself
within these is `Hdr.iter_eq`, not part of the tie) -/
theorem Max_tie {h : Hdr.Hist} (wf : Hdr.WF h) (hh : h.halfMag ≤ 20) :
    Gen.Hdr.Max (h.countsLen + 2) (cfgOf h) = (Hdr.maxV h : Int) := by
  unfold Gen.Hdr.Max Hdr.maxV
  have hloop := Max_loop_tie wf hh (h.countsLen + 2) 0 (-1) 0 0 0 0 0 (by omega) (by omega) (by omega)
  dsimp only
  simp only [Int.natCast_zero] at hloop
  rw [show Gen.Hdr.new_iterator (cfgOf h) = itOf h 0 (-1) 0 0 0 0 from rfl, hloop]
  refine highestEquivalentValue_tie wf _ ?_ hh
  exact List.foldlRecOn (motive := fun m : Nat => m < 2 ^ 63) _ _ (by omega) fun m hm p hp => by
    split
    · exact Hdr.iter_highest_lt wf p hp
    · exact hm

theorem Min_loop_tie {h : Hdr.Hist} (wf : Hdr.WF h) (hh : h.halfMag ≤ 20) : ∀ (fuel b : Nat) (s ct ca vf hi : Int),
    -1 ≤ s → s < h.subCount → b ≤ h.bucketCount →
    (Gen.Hdr.Min_loop1 fuel (itOf h b s ca ct vf hi) 0).2 =
      (((match (Hdr.iterFrom fuel h b s ct).find? (fun p => p.countAt ≠ 0) with
        | some p => p.highest
        | none => 0) : Nat) : Int) := by
  intro fuel
  induction fuel with
  | zero => intro b s ct ca vf hi _ _ _; rfl
  | succ f ih =>
    intro b s ct ca vf hi hs1 hs2 hb
    unfold Gen.Hdr.Min_loop1
    rcases next_cases wf hh f b s ct ca vf hi hs1 hs2 hb with ⟨he, hn⟩ | ⟨p, he, hn, p1, p2, p3⟩
    · rw [he]
      dsimp only
      rw [hn]; rfl
    · rw [he, hn]
      simp only [if_true, List.find?_cons, itOf, and_true]
      by_cases hc : p.countAt ≠ 0
      · rw [if_pos hc, decide_eq_true hc]
      · rw [if_neg hc, decide_eq_false hc]
        exact ih p.b p.s p.countTo p.countAt p.valueFrom p.highest p1 p2 p3

theorem Min_tie {h : Hdr.Hist} (wf : Hdr.WF h) (hh : h.halfMag ≤ 20) :
    Gen.Hdr.Min (h.countsLen + 2) (cfgOf h) = (Hdr.minV h : Int) := by
  unfold Gen.Hdr.Min Hdr.minV
  dsimp only
  rw [show Gen.Hdr.new_iterator (cfgOf h) = itOf h 0 (-1) 0 0 0 0 from rfl,
    Min_loop_tie wf hh (h.countsLen + 2) 0 (-1) 0 0 0 0 (by omega) (by omega) (by omega)]
  refine lowestEquivalentValue_tie wf _ ?_ hh
  split
  · next p hf => exact Hdr.iter_highest_lt wf p (List.mem_of_find?_eq_some hf)
  · decide

/-! ### `RecordValues` -/

/-- hdr.go's `RecordValues`, translated (receiver threaded functionally, `error` as `none`), is the model's -/
theorem RecordValues_tie {h : Hdr.Hist} (wf : Hdr.WF h) (v : Nat) (hv : v < 2 ^ 63) (hh : h.halfMag ≤ 20) (n : Int) :
    Gen.Hdr.RecordValues (cfgOf h) v n = (Hdr.recordValues h v n).map cfgOf := by
  have hnn : ¬ ((v : Int) < 0) := by omega
  simp only [Gen.Hdr.RecordValues, Hdr.recordValues, countsIndexFor_tie wf v hv hh, hnn, if_false, Int.toNat_natCast]
  have hl : (cfgOf h).countsLen = (h.countsLen : Int) := rfl
  rw [hl]
  by_cases hc : Hdr.countsIndexFor h v < 0 ∨ (h.countsLen : Int) ≤ Hdr.countsIndexFor h v
  · simp only [hc, if_true, Option.map_none]
  · simp only [hc, if_false, Option.map_some]
    have h0 : ¬ Hdr.countsIndexFor h v < 0 := fun x => hc (Or.inl x)
    simp only [cfgOf, Gen.Go.set, Gen.Go.index, h0, if_false, Hdr.listModify, List.getD_eq_getElem?_getD, List.modify_eq_set]
    -- `List.modify_eq_set` reads the old entry with `default`, the translation with `0`
    rfl

/-! ### the sizing loop of `New` (translated on its own: the function around it computes with floats) -/

theorem New_loop_tie (fuel : Nat) : ∀ (smallest mx n : Nat),
    (Gen.Hdr.New_loop1 (mx : Int) fuel (n : Int) (smallest : Int)).1 = (Hdr.bucketsLoop fuel smallest mx n : Int) := by
  induction fuel with
  | zero => intro s m n; rfl
  | succ f ih =>
    intro s m n
    simp only [Gen.Hdr.New_loop1, Hdr.bucketsLoop, Int.ofNat_le, Int.reduceToNat, ← Int.natCast_shiftLeft, cast_add_lit]
    split
    · exact ih (s <<< 1) m (n + 1)
    · rfl

/-! ### `getOffset` (util.go) -/

theorem getOffset_tie (count sample metric : Nat) :
    Gen.Util.getOffset count sample metric = ((metric * count + sample : Nat) : Int) := by
  simp [Gen.Util.getOffset]

/-! ### `Performance.Add` (events/performance.go)

The translated function works on ideal integers; Go's `int64` fields wrap.  `concP` reads a model value
(`BitVec 64` fields) as the integers the Go struct holds, `absP` reduces integers modulo 2^64: the translated
`Add`, run on the integers and reduced, is the model's wrapping `Perf.add` - addition commutes with the
reduction, and the id test `in.ID == 0` is decided on an in-range integer. -/

open Ftdc.Events in
def concP (p : Perf) : Gen.Events.Performance :=
  { Timestamp := p.ts.toInt, ID := p.id.toInt,
    Counters := { Number := p.n.toInt, Operations := p.ops.toInt, Size := p.size.toInt, Errors := p.errors.toInt },
    Timers := { Duration := p.dur.toInt, Total := p.total.toInt },
    Gauges := { State := p.state.toInt, Workers := p.workers.toInt, Failed := p.failed } }

open Ftdc.Events in
def absP (g : Gen.Events.Performance) : Perf :=
  { ts := BitVec.ofInt 64 g.Timestamp, id := BitVec.ofInt 64 g.ID,
    n := BitVec.ofInt 64 g.Counters.Number, ops := BitVec.ofInt 64 g.Counters.Operations,
    size := BitVec.ofInt 64 g.Counters.Size, errors := BitVec.ofInt 64 g.Counters.Errors,
    dur := BitVec.ofInt 64 g.Timers.Duration, total := BitVec.ofInt 64 g.Timers.Total,
    state := BitVec.ofInt 64 g.Gauges.State, workers := BitVec.ofInt 64 g.Gauges.Workers, failed := g.Gauges.Failed }

theorem toInt_eq_zero (a : BitVec 64) : a.toInt = 0 ↔ a = 0#64 := by
  rw [← BitVec.toInt_inj, BitVec.toInt_zero]

open Ftdc.Events in
theorem Add_tie (p e : Perf) :
    absP (Gen.Events.Add (concP p) (concP e)).1 = Perf.add p e ∧
    absP (Gen.Events.Add (concP p) (concP e)).2 = { e with id := nextId p.id e.id } := by
  unfold Gen.Events.Add
  by_cases h0 : e.id = 0#64
  · constructor <;>
      simp [absP, concP, Perf.add, nextId, h0, BitVec.ofInt_add, BitVec.ofInt_toInt]
  · constructor <;> simp [absP, concP, Perf.add, nextId, h0, toInt_eq_zero, BitVec.ofInt_add, BitVec.ofInt_toInt]

end Ftdc.CodeTie
