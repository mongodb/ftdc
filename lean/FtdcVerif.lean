import FtdcVerif.Gen.Facts
import FtdcVerif.Lemmas.BatchE2E
import FtdcVerif.Lemmas.Bson
import FtdcVerif.Lemmas.ChopE2E
import FtdcVerif.Lemmas.Codec
import FtdcVerif.Lemmas.Rle
import FtdcVerif.Lemmas.Collector
import FtdcVerif.Lemmas.ConcColl
import FtdcVerif.Lemmas.Csv
import FtdcVerif.Lemmas.DynE2E
import FtdcVerif.Lemmas.EndToEnd
import FtdcVerif.Lemmas.Hdr
import FtdcVerif.Lemmas.HdrCounts
import FtdcVerif.Lemmas.HdrMean
import FtdcVerif.Lemmas.HdrMergeX
import FtdcVerif.Lemmas.HdrMinMax
import FtdcVerif.Lemmas.HdrRank
import FtdcVerif.Lemmas.LockSound
import FtdcVerif.Lemmas.PayloadTie
import FtdcVerif.Lemmas.Pipeline
import FtdcVerif.Lemmas.Reader
import FtdcVerif.Lemmas.RecorderTS
import FtdcVerif.Lemmas.Recorders
import FtdcVerif.Lemmas.SDynE2E
import FtdcVerif.Lemmas.Sched
import FtdcVerif.Lemmas.SchemaHash
import FtdcVerif.Lemmas.StreamE2E
import FtdcVerif.Lemmas.UStreamSteps
import FtdcVerif.Lemmas.UndeltaTie
import FtdcVerif.Lemmas.Window
import FtdcVerif.Model.Basic
import FtdcVerif.Model.Bson
import FtdcVerif.Model.Codec
import FtdcVerif.Model.Collector
import FtdcVerif.Model.ConcColl
import FtdcVerif.Model.Csv
import FtdcVerif.Model.Events
import FtdcVerif.Model.Genny
import FtdcVerif.Model.Hdr
import FtdcVerif.Model.Layer
import FtdcVerif.Model.LockSkeleton
import FtdcVerif.Model.Metrics
import FtdcVerif.Model.Pipeline
import FtdcVerif.Model.Reader
import FtdcVerif.Model.RecorderTS
import FtdcVerif.Model.Recorders
import FtdcVerif.Model.Uncompressed
import FtdcVerif.Model.Views
import FtdcVerif.Props.C01
import FtdcVerif.Props.C02
import FtdcVerif.Props.C03
import FtdcVerif.Props.C04
import FtdcVerif.Props.C05
import FtdcVerif.Props.C06
import FtdcVerif.Props.C07
import FtdcVerif.Props.C08
import FtdcVerif.Props.C09
import FtdcVerif.Props.C10
import FtdcVerif.Props.C11
import FtdcVerif.Props.C12
import FtdcVerif.Props.C13
import FtdcVerif.Props.C14
import FtdcVerif.Props.C15
import FtdcVerif.Props.C16
import FtdcVerif.Props.C17
import FtdcVerif.Props.C18
import FtdcVerif.Props.C19
import FtdcVerif.Props.C20
